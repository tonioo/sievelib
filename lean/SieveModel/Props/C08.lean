import SieveModel.Lemmas.Codec
import SieveModel.Lemmas.AuthWrites
/-!
# C08 — Each client call puts exactly one well-formed command on the wire

`Rfc5804.command` is a strict server-side decoder written from the RFC 5804 ABNF, independent of
the client model.  Proved for every verb (non-empty, alphabetic), every argument list and every
byte string as name or content — including quotes, backslashes, CR, LF, NUL, `{n}` look-alikes:
the bytes of the command line decode to exactly the intended command and nothing is left over, so
no value can end the command early or smuggle a second one.
-/
namespace C08
open Client Rfc5804 Codec

/-- strings are quoted with `\\` and `\"` escaped: the strict decoder returns the caller's bytes -/
theorem quoted_string_decodes_to_value (a rest : Bytes) (h : hasCtl a = false) :
    quotedTail (escapeQ a ++ 34 :: rest) = some (a, rest) :=
  quotedTail_escapeQ a rest h

/-- literal lengths equal the byte length of the content: the decoder takes exactly the content -/
theorem literal_decodes_to_content (c rest : Bytes) :
    literalTail ((literalOf c).drop 1 ++ rest) = some (c, rest) :=
  literalTail_literalOf c rest

theorem number_roundtrip (n : Nat) :
    B.natToDec n ≠ [] ∧ (∀ d ∈ B.natToDec n, B.isDigit d = true) ∧ B.decToNat (B.natToDec n) = n :=
  B.natToDec_spec n

theorem command_line_decodes_to_intended_command (name : Bytes) (ws : List WArg) (rest : Bytes)
    (hne : name ≠ []) (hn : ∀ c ∈ name, isAlpha c = true) :
    command (commandBytes name ws ++ rest) = some (name, ws.map valueOf, rest) :=
  command_commandBytes name ws rest hne hn

/-- what one exchange writes: the command line, on the current channel, and nothing else -/
theorem exchange_writes_one_command (c : Client) (name : Bytes) (ws : List WArg) (nbl : Option Nat)
    (hc : c.connected = true) :
    (sendCommand c name ws [] nbl).2.writes = c.writes ++ [(c.tls, commandBytes name ws)] :=
  sendCommand_writes c name ws [] nbl hc

theorem putscript_on_the_wire (name content rest : Bytes) :
    command (commandBytes (sb "PUTSCRIPT") [.str name, .lit content] ++ rest)
      = some (sb "PUTSCRIPT", [.str name, .str content], rest) :=
  command_commandBytes _ _ rest (by decide) (by decide)

theorem renamescript_on_the_wire (old new rest : Bytes) :
    command (commandBytes (sb "RENAMESCRIPT") [.str old, .str new] ++ rest)
      = some (sb "RENAMESCRIPT", [.str old, .str new], rest) :=
  command_commandBytes _ _ rest (by decide) (by decide)

theorem havespace_on_the_wire (name rest : Bytes) (size : Nat) :
    command (commandBytes (sb "HAVESPACE") [.str name, .num size] ++ rest)
      = some (sb "HAVESPACE", [.str name, .num size], rest) :=
  command_commandBytes _ _ rest (by decide) (by decide)

/-- non-vacuity: a name that tries to close the string and add LOGOUT stays one argument -/
example : command (commandBytes (sb "DELETESCRIPT") [.str (sb "a\"\r\nLOGOUT")])
    = some (sb "DELETESCRIPT", [.str (sb "a\"\r\nLOGOUT")], []) := by
  have := command_commandBytes (sb "DELETESCRIPT") [.str (sb "a\"\r\nLOGOUT")] [] (by decide) (by decide)
  simpa [valueOf] using this

theorem putscript_writes_one_command (c : Client) (name content : Bytes) (ha : c.authenticated = true)
    (hc : c.connected = true) :
    (putscript c name content).2.writes = c.writes ++ [(c.tls, commandBytes (sb "PUTSCRIPT") [.str name, .lit content])] :=
  guarded_exchange_writes c _ _ ha hc

theorem deletescript_writes_one_command (c : Client) (name : Bytes) (ha : c.authenticated = true) (hc : c.connected = true) :
    (deletescript c name).2.writes = c.writes ++ [(c.tls, commandBytes (sb "DELETESCRIPT") [.str name])] :=
  guarded_exchange_writes c _ _ ha hc

theorem setactive_writes_one_command (c : Client) (name : Bytes) (ha : c.authenticated = true) (hc : c.connected = true) :
    (setactive c name).2.writes = c.writes ++ [(c.tls, commandBytes (sb "SETACTIVE") [.str name])] :=
  guarded_exchange_writes c _ _ ha hc

theorem havespace_writes_one_command (c : Client) (name : Bytes) (size : Nat) (ha : c.authenticated = true)
    (hc : c.connected = true) :
    (havespace c name size).2.writes = c.writes ++ [(c.tls, commandBytes (sb "HAVESPACE") [.str name, .num size])] :=
  guarded_exchange_writes c _ _ ha hc

/-- `getscript`: whatever the reply is (content, NO, undecodable bytes), one GETSCRIPT line was written -/
theorem getscript_writes_one_command (c : Client) (name : Bytes) (ha : c.authenticated = true) (hc : c.connected = true) :
    (getscript c name).2.writes = c.writes ++ [(c.tls, commandBytes (sb "GETSCRIPT") [.str name])] := by
  rw [getscript_snd, guarded_authenticated ha]
  exact exchange_writes_one_command c _ _ none hc

theorem listscripts_writes_one_command (c : Client) (ha : c.authenticated = true) (hc : c.connected = true) :
    (listscripts c).2.writes = c.writes ++ [(c.tls, commandBytes (sb "LISTSCRIPTS") [])] := by
  rw [listscripts_snd, guarded_authenticated ha]
  exact exchange_writes_one_command c _ _ none hc

/-- `checkscript` on a server announcing VERSION: one CHECKSCRIPT line carrying the content as a literal -/
theorem checkscript_writes_one_command (c : Client) (content : Bytes) (ha : c.authenticated = true) (hc : c.connected = true)
    (hv : capHas c (sb "VERSION") = true) :
    (checkscript c content).2.writes = c.writes ++ [(c.tls, commandBytes (sb "CHECKSCRIPT") [.lit content])] := by
  simp only [checkscript, guarded, ha, if_true, hv, Bool.not_true, Bool.false_eq_true, if_false, okOf_snd]
  exact exchange_writes_one_command c _ _ none hc

/-- … and on a server that does not: refused locally, nothing is written -/
theorem checkscript_without_version_writes_nothing (c : Client) (content : Bytes) (hv : capHas c (sb "VERSION") = false) :
    (checkscript c content).2.writes = c.writes := by
  unfold checkscript guarded
  split
  · simp [hv]
  · rfl

theorem native_renamescript_writes_one_command (c : Client) (old new : Bytes) (ha : c.authenticated = true)
    (hc : c.connected = true) (hv : capHas c (sb "VERSION") = true) :
    (renamescript c old new).2.writes = c.writes ++ [(c.tls, commandBytes (sb "RENAMESCRIPT") [.str old, .str new])] := by
  simp only [renamescript, guarded, ha, if_true, hv, okOf_snd]
  exact exchange_writes_one_command c _ _ none hc

theorem capability_writes_one_command (c : Client) (hc : c.connected = true) :
    (capability c).2.writes = c.writes ++ [(c.tls, commandBytes (sb "CAPABILITY") [])] := by
  rw [capability_snd]; exact exchange_writes_one_command c _ _ none hc

theorem logout_writes_one_command (c : Client) (hc : c.connected = true) :
    (logout c).2.writes = c.writes ++ [(c.tls, commandBytes (sb "LOGOUT") [])] := by
  rw [logout_snd]; exact exchange_writes_one_command c _ _ none hc

theorem unauthenticated_call_writes_nothing {α : Type} (c : Client) (f : Client → Res α) (h : c.authenticated = false) :
    (guarded c f).2.writes = c.writes := by
  rw [guarded_unauthenticated c f h]

end C08
