import SieveModel.Generated.LexRules
import SieveModel.Model.Machine
import SieveModel.Generated.Footprint
import SieveModel.Lemmas.Regenerated
/-!
# C13 — Parsing and filter building are independent of what happened before

The model's `parse` takes the parser object's previous state as an argument.  The theorem says
the outcome does not depend on it; what makes this a statement about the *code* is the footprint
obligation regenerated from `/repo` on every run: every attribute that the parser mutates while
parsing is (re)initialised by `__reset_parser`, the lexer's mutable attributes are initialised at
the start of `scan`, and the only process-global the parse path rebinds is
`RequireCommand.loaded_extensions`, which `__reset_parser` also rebinds; the factory call sites
that consult that global switch the check off.  The `hist` correspondence suite replays script
sequences through one reused `Parser` and compares each outcome with the history-free model.
-/
namespace C13

theorem parse_independent_of_history (T : Table) (text : Bytes) (prev₁ prev₂ : PState) :
    Machine.parse T text prev₁ = Machine.parse T text prev₂ := rfl

/-- obligation on the regenerated footprint: every attribute stored outside `__init__` /
    `__reset_parser` is one that `__reset_parser` writes (or the per-parse outputs `error`,
    `error_pos`) -/
theorem parser_mutations_are_reset :
    ∀ a ∈ Generated.parserMutated, a ∈ Generated.parserResetWrites ∨ a ∈ ["error", "error_pos"] := by
  decide

theorem lexer_mutations_are_initialised :
    ∀ a ∈ Generated.lexerMutated, a ∈ Generated.lexerScanInit := by decide

theorem globals_rebound_are_reset :
    ∀ g ∈ Generated.globalsRebound, g ∈ Generated.parserResetGlobals := by decide

/-- the factory never consults the process-global extension list: every `get_command_instance`
    for an extension-bound command passes `checkexists=False`, every `check_next_arg` for a tag
    goes through the helper that passes `check_extension=False` -/
theorem factory_calls_unchecked : Generated.factoryCheckedCalls = [] := by decide

example : Generated.parserMutated ≠ [] := by decide

theorem lexer_is_the_modelled_one :
    Generated.lexRuleNames = TokKind.all.map TokKind.name ∧ Generated.lexRulePatterns = TokKind.patterns ∧
      Generated.parserPatterns = TokKind.auxPatterns := Generated.lexer_is_the_modelled_one

end C13
