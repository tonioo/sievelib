import SieveModel.Generated.MsConsts
import SieveModel.Lemmas.Bytes
import SieveModel.Lemmas.ReplyDecode
import SieveModel.Lemmas.ReplyLine
import SieveModel.Lemmas.ReplyGrammar
import SieveModel.Lemmas.Regenerated
/-!
# C09 — Operation results mirror the server's status reply

`parseError` is the model of `Client.__parse_error`, which fills `errcode` / `errmsg` from the part
of a `NO` line that follows the status atom.  Proved for every response-code atom, every text
(any bytes: quotes, backslashes, non-ASCII …) and every reader state: each reply shape of
RFC 5804 is decoded to exactly the code and the human-readable text the reply carries — no
shape raises, none keeps protocol bytes (quotes, escapes, CRLF) in the text.

Reader level (`*_reply_is_read`): when the pending bytes — wherever the buffer/stream boundary lies and
however `recv` delivers them — begin with a status line, `__read_response` returns that status, sets
`errcode` / `errmsg` from that line alone and leaves exactly the bytes after its CRLF pending, so the
next reply is read from its first byte.
-/
namespace C09
open Reader Client ReplyDecode

/-- `NO` alone -/
theorem bare_no (st : RState) : parseError none st = .ok { st with errcode := [], errmsg := [] } := rfl

/-- `NO "text"` -/
theorem no_with_quoted_text (text : Bytes) (st : RState) :
    parseError (some (34 :: (escapeQ text ++ [34]))) st = .ok { st with errcode := [], errmsg := text } :=
  parseError_split_quoted text (splitCode_plain _ (by simp)) st

/-- `NO (CODE)` — also hierarchical codes such as `QUOTA/MAXSIZE` -/
theorem no_with_code_only (code : Bytes) (st : RState) (hne : code ≠ [])
    (hc : ∀ c ∈ code, isAtomByte c = true) :
    parseError (some (40 :: (code ++ [41]))) st = .ok { st with errcode := code, errmsg := [] } :=
  parseError_split_none (splitCode_code code [] hne hc) st

/-- `NO (CODE) "text"` -/
theorem no_with_code_and_quoted_text (code text : Bytes) (st : RState) (hne : code ≠ [])
    (hc : ∀ c ∈ code, isAtomByte c = true) :
    parseError (some (40 :: (code ++ 41 :: 32 :: (34 :: (escapeQ text ++ [34]))))) st
      = .ok { st with errcode := code, errmsg := text } :=
  parseError_split_quoted text (splitCode_code code _ hne hc) st

/-- `NO (CODE) {n}` CRLF text CRLF — the literal is taken by count, whatever it contains -/
theorem no_with_code_and_literal_text (code text more ds : Bytes) (st : RState) (hne : code ≠ [])
    (hc : ∀ c ∈ code, isAtomByte c = true) (hds : ds ≠ []) (hall : ∀ d ∈ ds, B.isDigit d = true)
    (hval : B.decToNat ds = text.length) (hp : pending st = text ++ 13 :: 10 :: more) :
    ∃ st', parseError (some (40 :: (code ++ 41 :: 32 :: (123 :: (ds ++ [125]))))) st = .ok st' ∧
      st'.errcode = code ∧ st'.errmsg = text ∧ pending st' = more :=
  parseError_split_literal ds text more (splitCode_code code _ hne hc) hds hall hval st hp

theorem unescape_escape (v : Bytes) : unescape (escapeQ v) = v := unescape_escapeQ v

theorem operation_result_is_status_ok (x : Res Reply) (rep : Reply) (c : Client) (h : x = (.ok rep, c)) :
    okOf x = (.ok (rep.code == some .OK), c) := by subst h; rfl

open ReplyLine in
/-- `BYE …` CRLF: the read fails with `Error` -/
theorem bye_reply_fails (nbl : Option Nat) (st : RState) (rest : Bytes) (hp : pending st = sb "BYE" ++ 13 :: 10 :: rest) :
    readResponse nbl st = .error .error :=
  readResponse_error nbl st _ (readLine_bye st (sb "BYE") rest none hp (StatusLine.of_statusLine .BYE [] nofun nofun))

theorem escapeQ_noLF (v : Bytes) (h : ReplyLine.NoLF v) : ReplyLine.NoLF (escapeQ v) :=
  forall_mem_escapeQ h (by decide)

example : (parseError (some (sb "(QUOTA/MAXSIZE) \"Quota \\\"x\\\" exceeded\"")) default).toOption.map
    (fun s => (s.errcode, s.errmsg)) = some (sb "QUOTA/MAXSIZE", sb "Quota \"x\" exceeded") := by
  rw [sb_lit, sb_lit, sb_lit]; decide +kernel

/-! ## the reply grammar as a whole

`NoReply` is a status reply in the abstract: an optional response code and an optional human-readable text, the text
sent as a quoted string or as a literal.  `every_no_reply_is_decoded` and `every_ok_reply_is_read` cover all twelve
shapes at once, for every code (a non-empty atom), every text (any octets as a literal; no LF when quoted, which is
what makes a text quotable), every split of the bytes between buffer and socket and every recv schedule. -/

open Reader Client ReplyDecode ReplyLine ReplyGrammar

inductive TextForm where
  | quoted (t : Bytes)
  | literal (t : Bytes)
  deriving Repr

def TextForm.value : TextForm → Bytes
  | .quoted t => t
  | .literal t => t

structure NoReply where
  code : Option Bytes
  text : Option TextForm

/-- what is admitted: a code is a non-empty atom; a quoted text holds no LF (it could not be quoted otherwise) -/
def NoReply.WF (r : NoReply) : Prop :=
  (∀ c, r.code = some c → c ≠ [] ∧ ∀ x ∈ c, isAtomByte x = true) ∧
  (∀ t, r.text = some (.quoted t) → NoLF t)

/-- the line after `NO` (without CRLF) -/
def NoReply.tail (r : NoReply) : Bytes :=
  (match r.code with | some c => 40 :: (c ++ [41]) | none => []) ++
  (match r.code, r.text with | some _, some _ => [32] | _, _ => []) ++
  (match r.text with
   | some (.quoted t) => 34 :: (escapeQ t ++ [34])
   | some (.literal t) => 123 :: (B.natToDec t.length ++ [125])
   | none => [])

/-- what follows the status line on the wire: the octets of a literal text and their CRLF -/
def NoReply.after (r : NoReply) : Bytes :=
  match r.text with
  | some (.literal t) => t ++ [13, 10]
  | _ => []

def NoReply.wire (r : NoReply) : Bytes :=
  (if r.tail.isEmpty then [78, 79] else 78 :: 79 :: 32 :: r.tail) ++ 13 :: 10 :: r.after

/-- the text as it stands on the status line -/
def encText : Option TextForm → Bytes
  | some (.quoted t) => 34 :: (escapeQ t ++ [34])
  | some (.literal t) => 123 :: (B.natToDec t.length ++ [125])
  | none => []

def NoReply.okWire (r : NoReply) : Bytes :=
  (if r.tail.isEmpty then [79, 75] else 79 :: 75 :: 32 :: r.tail) ++ 13 :: 10 :: r.after

theorem NoReply.wire_eq (r : NoReply) : r.wire = statusLine .NO r.tail ++ 13 :: 10 :: r.after := by
  unfold NoReply.wire statusLine; split <;> rfl

theorem NoReply.okWire_eq (r : NoReply) : r.okWire = statusLine .OK r.tail ++ 13 :: 10 :: r.after := by
  unfold NoReply.okWire statusLine; split <;> rfl

theorem encText_noLF {tx : Option TextForm} (h : ∀ t, tx = some (.quoted t) → NoLF t) : NoLF (encText tx) := by
  rcases tx with _ | t | t
  · exact NoLF_nil
  · simpa [encText] using escapeQ_noLF t (h t rfl)
  · simpa [encText] using noLF_of_class (B.natToDec_spec t.length).2.1

theorem encText_head (tx : Option TextForm) : ∀ c ∈ (encText tx).head?, c = 34 ∨ c = 123 := by
  rcases tx with _ | t | t
  · nofun
  · exact fun c h => .inl (Option.some.inj h).symm
  · exact fun c h => .inr (Option.some.inj h).symm

/-- the tail of a well-formed reply is one line, and begins with `(`, `"` or `{` -/
theorem NoReply.tail_line {r : NoReply} (hw : r.WF) : NoLF r.tail ∧ ∀ c ∈ r.tail.head?, B.isWs c = false := by
  obtain ⟨code, text⟩ := r
  have ht : NoLF (encText text) := encText_noLF hw.2
  -- once it is known whether there is a code and a text, the tail reduces to its three parts (`show`)
  cases code with
  | none =>
    show NoLF ([] ++ [] ++ encText text) ∧ ∀ c ∈ ([] ++ [] ++ encText text).head?, B.isWs c = false
    exact ⟨ht, fun c hc => by rcases encText_head text c hc with rfl | rfl <;> rfl⟩
  | some c =>
    have hc : NoLF c := noLF_of_class (hw.1 c rfl).2
    refine ⟨?_, fun _ h => by cases h; rfl⟩
    cases text with
    | none => show NoLF (40 :: (c ++ [41]) ++ [] ++ []); simp [hc]
    | some t => show NoLF (40 :: (c ++ [41]) ++ [32] ++ encText (some t)); simp [hc, ht]

/-- the two steps of `__parse_error` on the tail: the code is split off and the text, as it was encoded, is left -/
theorem NoReply.splitCode_tail {r : NoReply} (hw : r.WF) : splitCode r.tail = (r.code.getD [], encText r.text) := by
  obtain ⟨code, text⟩ := r
  cases code with
  | none =>
    show splitCode ([] ++ [] ++ encText text) = ([], encText text)
    exact splitCode_plain _ fun h => by rcases encText_head text _ h with h | h <;> cases h
  | some c =>
    obtain ⟨hne, hatom⟩ := hw.1 c rfl
    cases text with
    | none =>
      show splitCode (40 :: (c ++ [41]) ++ [] ++ []) = _
      rw [List.append_nil, List.append_nil]
      exact splitCode_code c [] hne hatom
    | some t =>
      show splitCode (40 :: (c ++ [41]) ++ [32] ++ encText (some t)) = _
      rw [List.append_assoc, List.cons_append, List.append_assoc]
      exact (splitCode_code c (32 :: encText (some t)) hne hatom).trans (by cases t <;> rfl)
/-- `__parse_error` on the data of a reply: code and text are the reply's, a literal text is consumed with its CRLF -/
theorem NoReply.parseError_data {r : NoReply} (hw : r.WF) (st : RState) (rest : Bytes) (hp : pending st = r.after ++ rest) :
    ∃ st', parseError (dataOf r.tail) st = .ok st' ∧ pending st' = rest ∧
      st'.errcode = r.code.getD [] ∧ st'.errmsg = (r.text.map TextForm.value).getD [] := by
  have hs := NoReply.splitCode_tail hw
  rw [parseError_dataOf]
  obtain ⟨code, text⟩ := r
  rcases text with _ | t | t
  · exact ⟨_, parseError_split_none hs st, hp, rfl, rfl⟩
  · exact ⟨_, parseError_split_quoted t hs st, hp, rfl, rfl⟩
  · obtain ⟨hd1, hd2, hd3⟩ := B.natToDec_spec t.length
    obtain ⟨st', h1, h2, h3, h4⟩ := parseError_split_literal _ t rest hs hd1 hd2 hd3 st (by rw [hp]; exact List.append_assoc ..)
    exact ⟨st', h1, h4, h2, h3⟩

/-- a size indication ends the tail exactly when the text is a literal -/
theorem NoReply.trailingSize_tail (r : NoReply) :
    (dataOf r.tail).bind trailingSize = match r.text with | some (.literal t) => some t.length | _ => none := by
  obtain ⟨code, text⟩ := r
  have lit : ∀ (pre : Bytes) (t : Bytes), trailingSize (pre ++ 123 :: (B.natToDec t.length ++ [125])) = some t.length := by
    intro pre t
    obtain ⟨hd1, hd2, hd3⟩ := B.natToDec_spec t.length
    rw [trailingSize_literal pre _ hd1 hd2, hd3]
  have other : ∀ (l : Bytes) (b : UInt8), (b = 34 ∨ b = 41) → trailingSize (l ++ [b]) = none := by
    intro l b hb
    exact trailingSize_none_of_last _ b (by simp) (by rcases hb with rfl | rfl <;> decide)
  rw [trailingSize_dataOf]
  rcases text with _ | t | t
  · cases code with
    | none => rfl
    | some c =>
      show trailingSize ((40 :: c) ++ [41] ++ [] ++ []) = none
      rw [List.append_nil, List.append_nil]
      exact other _ 41 (.inr rfl)
  · show trailingSize (_ ++ _ ++ ((34 :: escapeQ t) ++ [34])) = none
    rw [← List.append_assoc]
    exact other _ 34 (.inl rfl)
  · exact lit _ t

theorem no_reply_is_read (nbl : Option Nat) (st : RState) (r : NoReply) (hw : r.WF) (rest : Bytes)
    (hp : pending st = r.wire ++ rest) :
    ∃ st', readResponse nbl st = .ok (⟨some .NO, dataOf r.tail, []⟩, st') ∧ pending st' = rest ∧
      st'.errcode = r.code.getD [] ∧ st'.errmsg = (r.text.map TextForm.value).getD [] := by
  rw [r.wire_eq, List.append_assoc, List.cons_append, List.cons_append] at hp
  obtain ⟨hlf, hws⟩ := NoReply.tail_line hw
  obtain ⟨st1, k1, hok, _⟩ := readLine_no st _ _ _ hp (StatusLine.of_statusLine .NO r.tail hlf hws)
  obtain ⟨st2, hpe, h2, h3, h4⟩ := NoReply.parseError_data hw st1 rest k1.pending
  exact ⟨st2, readResponse_status nbl st _ .NO _ (hok _ hpe), h2, h3, h4⟩

/-- **an `OK` reply is read as OK**, its literal text, if any, consumed with it -/
theorem ok_reply_is_read (nbl : Option Nat) (st : RState) (r : NoReply) (hw : r.WF) (rest : Bytes)
    (hp : pending st = r.okWire ++ rest) :
    ∃ st', readResponse nbl st = .ok (⟨some .OK, dataOf r.tail, []⟩, st') ∧ pending st' = rest ∧
      st'.errcode = st.errcode ∧ st'.errmsg = st.errmsg := by
  rw [r.okWire_eq, List.append_assoc, List.cons_append, List.cons_append] at hp
  obtain ⟨hlf, hws⟩ := NoReply.tail_line hw
  have hl := StatusLine.of_statusLine .OK r.tail hlf hws
  have hts := r.trailingSize_tail
  obtain ⟨st1, h1, k⟩ : ∃ st1, readLine st = .ok (.response .OK (dataOf r.tail), st1) ∧ Leaves st rest st1 := by
    obtain ⟨code, _ | t | t⟩ := r
    · exact readLine_ok st _ rest _ hp hl hts
    · exact readLine_ok st _ rest _ hp hl hts
    · exact readLine_ok_literal st _ t rest _ (by simpa [NoReply.after] using hp) hl hts
  exact ⟨st1, readResponse_status nbl st st1 .OK _ h1, k.pending, k.errcode, k.errmsg⟩

/-- **every `NO` reply is decoded to what it says**: whatever combination of response code and text, the text quoted
    or sent as a literal, the call's error code and message are exactly the reply's, and exactly the reply is consumed -/
theorem every_no_reply_is_decoded (nbl : Option Nat) (st : RState) (r : NoReply) (hw : r.WF) (rest : Bytes)
    (hp : pending st = r.wire ++ rest) :
    ∃ st' d, readResponse nbl st = .ok (⟨some .NO, d, []⟩, st') ∧ pending st' = rest ∧
      st'.errcode = r.code.getD [] ∧ st'.errmsg = (r.text.map TextForm.value).getD [] :=
  let ⟨st', h⟩ := no_reply_is_read nbl st r hw rest hp
  ⟨st', _, h⟩

/-- **every `OK` reply is read as OK**: with or without response code (`(WARNINGS)`, `(TAG "…")`-less atoms), with or
    without text, the text quoted or sent as a literal — the status is OK, exactly the reply is consumed (literal text and
    its CRLF included), and the error fields of the client are left alone -/
theorem every_ok_reply_is_read (nbl : Option Nat) (st : RState) (r : NoReply) (hw : r.WF) (rest : Bytes)
    (hp : pending st = r.okWire ++ rest) :
    ∃ st' d, readResponse nbl st = .ok (⟨some .OK, d, []⟩, st') ∧ pending st' = rest ∧
      st'.errcode = st.errcode ∧ st'.errmsg = st.errmsg :=
  let ⟨st', h⟩ := ok_reply_is_read nbl st r hw rest hp
  ⟨st', _, h⟩

/-- non-vacuity: a reply with a hierarchical code and a two-line literal text, and what it looks like on the wire -/
example : (⟨some (sb "QUOTA/MAXSIZE"), some (.literal (sb "a\r\nb"))⟩ : NoReply).wire = sb "NO (QUOTA/MAXSIZE) {4}\r\na\r\nb\r\n" := by
  rw [sb_lit, sb_lit, sb_lit]; decide +kernel

example : (⟨some (sb "QUOTA/MAXSIZE"), some (.literal (sb "a\r\nb"))⟩ : NoReply).WF := by
  refine ⟨fun c hc => ?_, fun t ht => by cases ht⟩
  cases hc
  rw [sb_lit]
  exact ⟨by decide +kernel, by decide +kernel⟩

theorem client_patterns_are_the_modelled_ones : Generated.clientPatterns = Client.patterns :=
  Generated.client_patterns_are_the_modelled_ones

end C09
