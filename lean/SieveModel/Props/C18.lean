import SieveModel.Generated.LexRules
import SieveModel.Lemmas.Lex
import SieveModel.Model.Show
import SieveModel.Lemmas.Pos
import SieveModel.Lemmas.Machine
import SieveModel.Lemmas.Regenerated
/-!
# C18 — Parse errors point at the offending place

Proved here (all inputs, all tables):
* `position_is_editor_position`: the `(line, column)` the model reports for byte offset `p`
  (`curlineno`, `curcolno`) is the position a text editor shows for that byte: line = 1 + number of
  line feeds before `p`, column = 1-based byte offset within the line;
* `rejection_located_at_a_token`: every rejection raised while tokens are processed is reported
  at the start of the token being processed (or one byte before it when the lexer was rewound in
  that very step) with that token's byte length;
* `reported_span_is_the_offending_token`: for a whole parse, a rejection raised while tokens are processed
  reports an offset and a length that delimit, in the input bytes, exactly the text of the token the parser
  was processing (`text[p : p+len]` is that token; `p + len ≤ |text|`), `p` possibly one byte early after a
  lexer rewind;
* `rejection_independent_of_what_follows`: once the token loop has stopped on a prefix of the
  token stream, no continuation changes the outcome (prefix determinism).

Open: `rejection_is_immediate_statement` (every surviving prefix is completable, i.e. the machine
rejects at the *first* token that makes the script invalid) needs the completeness half of C01 (see that file's header).
-/
namespace C18

theorem position_is_editor_position (text : Bytes) (p : Nat) (hp : p ≤ text.length) :
    (Lex.lineno text p, Lex.colno text p) = Lex.posOf text p (1, 1) :=
  Lex.lineno_colno_eq_posOf text p hp

theorem rejection_located_at_a_token (T : Table) (toks : List Tok) (s : PState) (n : Nat)
    (o : Machine.Outcome) (h : Machine.feed T toks s n = .stop o) :
    o = .hang ∨ (∃ w, o = .crash w) ∨
      ∃ tok ∈ toks, ∃ e, (o = .reject tok.pos tok.text.length e ∨
                          o = .reject (tok.pos - 1) tok.text.length e) :=
  Machine.feed_stop_located T toks s n o h

theorem rejection_independent_of_what_follows (T : Table) (pre rest : List Tok) (s : PState) (n : Nat)
    (o : Machine.Outcome) (h : Machine.feed T pre s n = .stop o) :
    Machine.feed T (pre ++ rest) s n = .stop o :=
  Machine.feed_prefix_stop T pre rest s n o h

theorem reported_span_is_the_offending_token (T : Table) (text : Bytes) (prev : PState) (lr : Lex.Result)
    (hl : Lex.lex text = some lr) (p n : Nat) (e : PErr)
    (hs : Machine.feed T lr.toks {} 0 = .stop (.reject p n e)) :
    ∃ tok ∈ lr.toks, (p = tok.pos ∨ p = tok.pos - 1) ∧ n = tok.text.length ∧
      (text.drop tok.pos).take n = tok.text ∧ tok.pos + n ≤ text.length := by
  rcases Machine.feed_stop_located T lr.toks {} 0 _ hs with h | ⟨w, h⟩ | ⟨tok, hmem, e', h⟩
  · cases h
  · cases h
  · obtain ⟨s1, s2⟩ := Lex.lex_slices text lr hl tok hmem
    rcases h with h | h <;> cases h
    · exact ⟨tok, hmem, .inl rfl, rfl, s1, s2⟩
    · exact ⟨tok, hmem, .inr rfl, rfl, s1, s2⟩

/-- non-vacuity: offset 7 of "ab\ncd\nefg" is line 3, column 2 -/
example : (Lex.lineno (sb "ab\ncd\nefg") 7, Lex.colno (sb "ab\ncd\nefg") 7) = (3, 2) := by decide +kernel

/-- the offending token of a multi-line script is reported on its own line -/
example : Show.outcome (sb "keep;\n\nfoo;") (Machine.parse [] (sb "keep;\n\nfoo;"))
    = "reject 1 1 4 unknownCommand 6b656570" := by decide +kernel

/-- full-strength statement still to be proved: the machine never rejects later than necessary -/
def rejection_is_immediate_statement : Prop :=
  ∀ (T : Table) (toks : List Tok) (s : PState) (n : Nat), Machine.feed T toks {} 0 = .done s n →
    ∃ suffix r, Machine.run T 0 none (toks ++ suffix) {} 0 = .accept r

theorem lexer_is_the_modelled_one :
    Generated.lexRuleNames = TokKind.all.map TokKind.name ∧ Generated.lexRulePatterns = TokKind.patterns ∧
      Generated.parserPatterns = TokKind.auxPatterns := Generated.lexer_is_the_modelled_one

end C18
