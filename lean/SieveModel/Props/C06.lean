import SieveModel.Model.Lexer
import SieveModel.Lemmas.Factory
import SieveModel.Lemmas.FactorySet
import SieveModel.Generated.Tables
import SieveModel.Generated.FactoryData
import SieveModel.Model.Show
import SieveModel.Lemmas.QuoteLex
/-!
# C06 — every script the filter factory generates is valid and self-sufficient

Model: `Model/Factory.lean` transliterates `FiltersSet.__create_filter` and what it calls (`require`,
`check_if_arg_is_extension`, `__quote*`, `__add_match_tag`, `__build_condition`), driving the same argument
interpreter as the parser model.  It is tied to `/repo` by the `factory-build` correspondence (requirement
list and tree, or error class, on generated and deliberately malformed descriptions) and by two regenerated
dictionaries (`Generated/FactoryData.lean`).

Proved here:
* `requirements_cover_every_extension_used` (every table satisfying the decidable `Factory.tableOK`, every
  description whose actions name controls or actions, every starting requirement list): if the construction
  succeeds and leaves the requirement list `r`, then the same construction **with every extension check
  switched on** — `get_command_instance(checkexists=True)`, `check_next_arg(check_extension=True)`, i.e. what
  the parser insists on when it meets the same commands and arguments — succeeds with the same tree against
  any loaded list `L ⊇ r` (containing what was loaded globally during the call).  So the `require` the set
  renders names every extension any of its filters uses, and stays sufficient when further filters add to it.
* `set_requirements_cover_every_filter`: the same for whole sets — after any sequence of `addfilter` / `updatefilter`
  (succeeding or raising), `removefilter` and re-ordering / re-wrapping operations starting from an empty set, every filter
  the set built is re-built with every check on against the requirement list *as it is now*: the list only grows
  (`createFilter_grows`, also when the construction raises), so no later edit can make an earlier filter's extensions
  disappear from the `require`.
* `live_factory_tables_ok`: the table and the two dictionaries regenerated from `/repo` satisfy `tableOK`
  (kernel evaluation).
* `quoted_value_lexes_as_one_token`, `generated_list_has_one_string_token_per_value`: the lexer reads a quoted value as
  exactly one string token, whatever the value contains, and a generated list as `[`, one string token per value, `]`.
The rendering and re-parsing of the tree is decided by the oracle on the real code (and by C04's theorems).
-/
namespace C06
open Factory

/-- the lexer reads a quoted value as exactly one string token, whatever the value contains:
    user data cannot end the string early or contribute another token -/
theorem quoted_value_is_one_string_token (v rest : Bytes) :
    Lex.stringEnd (escape v ++ 34 :: rest) = some ((escape v).length + 1) :=
  QuoteLex.stringEnd_escape v rest

theorem quoted_value_lexes_as_one_token (v rest : Bytes) : Lex.one (quote v ++ rest) = some (.string, (quote v).length) :=
  QuoteLex.quote_one v rest

/-- **a generated list lexes to `[`, one string token per value with commas between, `]`** — nothing else, whatever the
    values hold (quotes, backslashes, commas, brackets, semicolons, line breaks, bytes that are no UTF-8) -/
theorem generated_list_has_one_string_token_per_value (vs : List Bytes) :
    ∃ r, Lex.lex (quoteList vs) = some r ∧ r.err = none ∧
      r.toks.map Lex.kt = (TokKind.left_bracket, [91]) :: Reprint.commaK (vs.map (fun v => (TokKind.string, quote v))) ++
        [(TokKind.right_bracket, [93])] ∧
      (r.toks.filter (fun t => t.kind == .string)).length = vs.length := by
  obtain ⟨r, h1, h2, h3⟩ := QuoteLex.quoteList_lexes vs
  refine ⟨r, h1, h2, h3, ?_⟩
  have hc := Reprint.commaK_strings (vs.map fun v => (TokKind.string, quote v)) fun x hx => by
    obtain ⟨v, _, rfl⟩ := List.mem_map.1 hx; rfl
  have hlen : ((r.toks.map Lex.kt).filter (fun x => x.1 == TokKind.string)).length = vs.length := by
    rw [h3, List.cons_append, List.filter_cons_of_neg (by decide), List.filter_append, List.filter_cons_of_neg (by decide),
      List.filter_nil, List.append_nil, hc, List.length_map]
  rw [← hlen, List.filter_map, List.length_map]
  rfl

/-- non-vacuity: three hostile values -/
example : (match Lex.lex (quoteList [sb "a\"]; discard; [\"", sb "x\\", sb "], \"y"]) with
    | some r => r.err.isNone && decide ((r.toks.filter (fun t => t.kind == .string)).length = 3) && decide (r.toks.length = 7)
    | none => false) = true := by decide +kernel

/-- the factory's view of the live code: command table and the two dictionaries regenerated from `/repo` -/
def liveCfg (gl : List Bytes) : Cfg :=
  { T := Generated.builtinTable, matchExt := Generated.matchTypeExt, argExt := Generated.argsUsingExtensions, gl := gl }

theorem live_factory_tables_ok : tableOK (liveCfg []) = true := by decide +kernel

theorem requirements_cover_every_extension_used (cfg : Cfg) (hs : cfg.strict = none) (hT : tableOK cfg = true)
    (reqs : List Bytes) (conds acts : List (List Val)) (matchtype : Bytes) (hacts : ∀ a ∈ acts, ActOK cfg a)
    (r : List Bytes) (n : Node) (h : createFilter cfg reqs conds acts matchtype = (r, .ok n)) :
    (∀ x ∈ reqs, x ∈ r) ∧
    ∀ L, (∀ x ∈ r, x ∈ L) → (∀ x ∈ cfg.gl, x ∈ L) →
      createFilter (cfg.strictWith L) reqs conds acts matchtype = (r, .ok n) :=
  ⟨by have := createFilter_grows cfg reqs conds acts matchtype; rwa [h] at this,
   fun _ hL hgl => createFilter_rep hs (tableOK_sound cfg hT) hgl reqs conds acts matchtype hacts r n h hL⟩

/-- the same for the live code, nothing loaded globally (a fresh interpreter, or after any parse that required
    nothing): the strict construction succeeds against the produced requirement list itself -/
theorem requirements_cover_every_extension_used_live (reqs : List Bytes) (conds acts : List (List Val)) (matchtype : Bytes)
    (hacts : ∀ a ∈ acts, ActOK (liveCfg []) a) (r : List Bytes) (n : Node)
    (h : createFilter (liveCfg []) reqs conds acts matchtype = (r, .ok n)) :
    createFilter ((liveCfg []).strictWith r) reqs conds acts matchtype = (r, .ok n) :=
  (requirements_cover_every_extension_used (liveCfg []) rfl
    live_factory_tables_ok reqs conds acts matchtype hacts r n h).2 r (fun _ hx => hx)
    fun _ hx => (List.not_mem_nil hx).elim

theorem set_requirements_cover_every_filter (cfg : Cfg) (hs : cfg.strict = none) (hT : tableOK cfg = true) (ops : List SOp) :
    let st := runS cfg ops {}
    ∀ b ∈ st.built, (∀ a ∈ b.d.acts, ActOK cfg a) →
      createFilter (cfg.strictWith (st.reqs ++ cfg.gl)) b.start b.d.conds b.d.acts b.d.mt = (b.after, .ok b.node) :=
  Factory.set_requirements_cover_every_filter cfg hs (tableOK_sound cfg hT) ops

theorem requirements_only_grow (cfg : Cfg) (reqs : List Bytes) (conds acts : List (List Val)) (matchtype : Bytes) :
    ∀ x ∈ reqs, x ∈ (createFilter cfg reqs conds acts matchtype).1 :=
  createFilter_grows cfg reqs conds acts matchtype

/-- non-vacuity: `fileinto :copy` under a `:regex` header test — both extensions and the command's own end up required,
    and the strict construction against exactly that list gives the same tree; against a list without `copy` it fails -/
example :
    (createFilter (liveCfg []) [] [[.s (sb "Subject"), .s (sb ":regex"), .s (sb "a.*")]]
        [[.s (sb "fileinto"), .s (sb ":copy"), .s (sb "INBOX")]] (sb "anyof")).1
      = [sb "regex", sb "fileinto", sb "copy"] := by decide +kernel
example :
    (match (createFilter ((liveCfg []).strictWith [sb "regex", sb "fileinto"]) [] [[.s (sb "Subject"), .s (sb ":regex"), .s (sb "a.*")]]
        [[.s (sb "fileinto"), .s (sb ":copy"), .s (sb "INBOX")]] (sb "anyof")).2 with
      | .error (.cmd (.extNotLoaded e)) => e == sb "copy"
      | _ => false) = true := by decide +kernel

end C06
