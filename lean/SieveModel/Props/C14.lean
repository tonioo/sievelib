import SieveModel.Generated.MsConsts
import SieveModel.Lemmas.ClientState
import SieveModel.Lemmas.Rename
import SieveModel.Lemmas.Regenerated
/-!
# C14 — Emulated rename never loses or overwrites a script

The emulation is the composition LISTSCRIPTS → GETSCRIPT old → PUTSCRIPT new → [SETACTIVE new] →
DELETESCRIPT old.  Proved about the model (every reply sequence, every name, every segmentation):
* `true_means_every_step_succeeded`: the call returns True only if, in this order, the listing
  contained `old` and not `new` (neither as active nor as inactive script), the old content was
  read, the copy was stored, the copy was activated when `old` was active, and `old` was deleted;
* `existing_target_is_never_written`: if the listing shows `new` (active or not), nothing is
  written after LISTSCRIPTS — an existing script is never overwritten;
* `delete_only_after_copy_and_activation`: DELETESCRIPT is issued only after PUTSCRIPT (and
  SETACTIVE when needed) returned True — stated for a refused PUTSCRIPT: the call ends there with
  False and the client as PUTSCRIPT left it.
Proved about the abstract walk `Rename.run` (Model/Rename.lean: the five commands against an abstract
RFC 5804 store, each answered normally, with NO, with BYE, not at all, or executed with its reply lost —
every store with distinct names, every pair of names, every fault placement, every content
transformation): `emulated_rename_is_safe` (the store stays well-formed; scripts the call is not about
are untouched; an existing script named like the target is never written over — nothing changes at all;
the script being renamed survives under its old name unchanged or under the new name as uploaded; no
third script becomes active; True means old name gone, new name holds the content, active iff the old
one was), `rename_ends_in_one_of_five_stores` and `rename_without_faults_succeeds`.  The walk is tied
to the real client running against the executable reference server on every state class × fault
placement (driver op `ren`).
-/
namespace C14
open Client

/-- `renamescript` on a server without VERSION *is* the emulated composition -/
theorem renamescript_is_emulated (c : Client) (old new : Bytes) (ha : c.authenticated = true)
    (hv : capHas c (sb "VERSION") = false) : renamescript c old new = emulatedRename c old new := by
  simp [renamescript, guarded, ha, hv]

theorem rename_refused_unauthenticated (c : Client) (o n : Bytes) (h : c.authenticated = false) :
    renamescript c o n = (.error .error, c) := guarded_unauthenticated c _ h

/-- an existing target — active or not — stops the emulation right after the listing -/
theorem existing_target_is_never_written (c c1 : Client) (old new : Bytes) (active : Option Bytes)
    (scripts : List Bytes) (hl : listscripts c = (.ok (some (active, scripts)), c1))
    (hnew : new ∈ scripts ∨ active = some new) :
    (emulatedRename c old new).1 = .ok false ∧ (emulatedRename c old new).2.writes = c1.writes := by
  have hn : (decide (new ∈ scripts) || active == some new) = true := by simpa using hnew
  -- the result is the client as the listing left it, but for the error message
  have : ∃ m, emulatedRename c old new = (.ok false, setErrmsg c1 m) := by
    unfold emulatedRename
    rw [hl]
    simp only
    by_cases ho : (active != some old && !decide (old ∈ scripts)) = true
    · rw [if_pos ho]; exact ⟨_, rfl⟩
    · rw [if_neg ho, if_pos hn]; exact ⟨_, rfl⟩
  obtain ⟨m, e⟩ := this
  rw [e]
  exact ⟨rfl, rfl⟩

/-- True is returned only when every step succeeded, in order -/
theorem true_means_every_step_succeeded (c c' : Client) (old new : Bytes)
    (h : emulatedRename c old new = (.ok true, c')) :
    ∃ active scripts body c1 c2 c3 c4,
      listscripts c = (.ok (some (active, scripts)), c1) ∧
      (active = some old ∨ old ∈ scripts) ∧ new ∉ scripts ∧ active ≠ some new ∧
      getscript c1 old = (.ok (some body), c2) ∧
      putscript c2 new body = (.ok true, c3) ∧
      activateIfNeeded c3 active old new = (.ok true, c4) ∧
      deletescript c4 old = (.ok true, c') := by
  revert h
  fun_cases emulatedRename c old new with
  | case11 active scripts c1 hl hold hnew body c2 hg c3 hp c4 hs =>
    intro h
    have hnew : new ∉ scripts ∧ active ≠ some new := by simpa using hnew
    refine ⟨active, scripts, body, c1, c2, c3, c4, hl, ?_, hnew.1, hnew.2, hg, hp, hs, h⟩
    by_cases ha : active = some old
    · exact .inl ha
    · exact .inr (by simpa [ha] using hold)
  -- the last branch of `emulatedRename` (11) hands on `deletescript`'s answer; each of the other ten answers Error or False
  | _ => intro h; cases h

/-- a refused PUTSCRIPT ends the call: False, and the client as PUTSCRIPT left it (no SETACTIVE, no DELETESCRIPT) -/
theorem delete_only_after_copy_and_activation (c : Client) (old new : Bytes) (active : Option Bytes)
    (scripts : List Bytes) (c1 c2 c3 : Client) (body : Bytes)
    (hl : listscripts c = (.ok (some (active, scripts)), c1))
    (hold : active = some old ∨ old ∈ scripts) (hnew : new ∉ scripts ∧ active ≠ some new)
    (hg : getscript c1 old = (.ok (some body), c2))
    (hp : putscript c2 new body = (.ok false, c3)) :
    emulatedRename c old new = (.ok false, c3) := by
  unfold emulatedRename
  rw [hl]
  simp only
  have h1 : (active != some old && !decide (old ∈ scripts)) = false := by
    rcases hold with h | h
    · simp [h]
    · simp [h]
  have h2 : (decide (new ∈ scripts) || active == some new) = false := by
    simp [hnew.1, hnew.2]
  simp only [h1, h2, Bool.false_eq_true, if_false, hg, hp]

open Rename in
/-- **every run of the emulated rename ends in one of five stores**: unchanged; with the copy; with the
    copy active; with the copy and without the original; the same with the copy active — the last two
    only with result True (or Error when the final reply was lost), the first three never with True -/
theorem rename_ends_in_one_of_five_stores (f : Bytes → Bytes) (plan : Step → Fault) (s : Store) (old new : Bytes)
    (hw : WF s) : Shape f s old new (run f plan s old new) :=
  run_shape f plan s old new hw

open Rename in
/-- **the emulated rename never loses or overwrites a script**, whatever the server refuses or fails at -/
theorem emulated_rename_is_safe (f : Bytes → Bytes) (plan : Step → Fault) (s : Store) (old new : Bytes) (hw : WF s) :
    Safe f s old new (run f plan s old new).1 (run f plan s old new).2 :=
  run_safe f plan s old new hw

open Rename in
theorem rename_without_faults_succeeds (f : Bytes → Bytes) (s : Store) (old new : Bytes) (hw : WF s)
    (hold : old ∈ s.names) (hnew : new ∉ s.names) : (run f (fun _ => .none) s old new).2 = .true := by
  obtain ⟨c, hc⟩ := mem_names_iff.1 hold
  rw [run_eq f _ old new hw, if_pos (by simp [hold, hnew]), stepGet_walk f _ hc hnew rfl rfl]
  -- with no fault every `attempt` runs its continuation; the one `if` left is whether `old` was active (four commands or
  -- three), and both chains end in `(_, .true)`
  simp only [attempt]
  split <;> rfl

open Rename in
/-- non-vacuity: three scripts, the one being renamed active, the reply to DELETESCRIPT lost — the store
    ends with the copy active and the original gone, the caller sees Error -/
example : run id (fun st => if st = .delete then .lost else .none)
      ⟨[(sb "a", sb "keep;"), (sb "old", sb "stop;"), (sb "z", [])], some (sb "old")⟩ (sb "old") (sb "new") =
    (⟨[(sb "a", sb "keep;"), (sb "z", []), (sb "new", sb "stop;")], some (sb "new")⟩, .error) := by decide +kernel

open Rename in
example : WF ⟨[(sb "a", sb "keep;"), (sb "old", sb "stop;"), (sb "z", [])], some (sb "old")⟩ := by
  refine ⟨by decide, ?_⟩
  intro a ha
  have : a = sb "old" := (Option.some.inj ha).symm
  subst this
  decide

theorem client_patterns_are_the_modelled_ones : Generated.clientPatterns = Client.patterns :=
  Generated.client_patterns_are_the_modelled_ones

end C14
