import SieveModel.Generated.LexRules
import SieveModel.Lemmas.Gating
import SieveModel.Lemmas.Loaded
import SieveModel.Spec.ExtensionMap
import SieveModel.Generated.Tables
import SieveModel.Model.Show
import SieveModel.Lemmas.Regenerated
/-!
# C07 — Extension use is gated by require

* `table_covers_frozen_extension_map` (re-checked against the table regenerated from /repo on
  every run): every (command, extension) and (command, tag, extension) pair of the frozen RFC
  baseline `Spec.commandExt` / `Spec.tagExt` is present in the live command table *with that
  extension*.  Deleting `"extension": "copy"` from a definition breaks this obligation.
* local gating theorems, for every table, every state and every token: a command instance is
  created only when its extension is loaded; an optional (tagged) argument is recorded only when
  its slot's extension is loaded; a value admitted through `extension_values` is admitted only when
  the value's extension is loaded.
* `loaded_only_grows_by_require`: a completion callback never removes a name from the loaded-extension
  list, and only that of a `require` command changes it; `token_changes_loaded_only_by_require`: what one
  token adds are the (unquoted) capability names of the `require` command its `;` completes.

* **trace level** (`loaded_names_come_from_completed_requires`, `command_use_is_preceded_by_require`,
  `tagged_argument_use_is_preceded_by_require`): in a parse from the initial state, at every point of
  the token stream, every name in the loaded list is a capability argument of a `require` command that
  an *earlier* `;` of the stream completed; hence whenever the parser creates an instance of an
  extension-bound command, or records an extension-bound tagged argument, that extension was named by
  a `require` completed before that token.  The step-level fact behind it: one token changes the loaded
  list only if it is the `;` ending the current command, and then by that command's completion callback.
-/
namespace C07
open Args Machine

theorem table_covers_frozen_extension_map : Spec.ExtCovered Generated.builtinTable = true := by decide +kernel

theorem command_needs_loaded_extension (T : Table) (loaded : List Bytes) (ident : Bytes) (d : CmdDef)
    (h : getCommand T loaded ident true = .ok d) : ∀ e, d.extension = some e → e ∈ loaded :=
  Gating.getCommand_gated T loaded ident d h

theorem tagged_argument_needs_loaded_extension (cmd : Bytes) (loaded : List Bytes) (add : Bool)
    (t : ArgType) (v : AVal) (st st' : CState) (defs : List ArgDef) (pos : Nat) (k : String)
    (h : scan cmd loaded true add t v st defs pos = .ok (st', .arg k)) :
    ∃ d ∈ defs, d.name = k ∧ validValue d v loaded true = .ok true ∧
      (d.required = false → ∀ e, d.extension = some e → e ∈ loaded) :=
  Gating.scan_gated cmd loaded add t v st st' defs pos k h

theorem extension_value_needs_loaded_extension (d : ArgDef) (raw : Bytes) (loaded : List Bytes)
    (h : validValue d (.str raw) loaded true = .ok true)
    (hnot : inValues d.values (B.lower raw) = false) :
    ∀ ext, extLookup d.extValues (B.lower raw) = some ext → ext ∈ loaded :=
  Gating.validValue_gated d raw loaded h hnot

/-- the completion callback only ever *adds* names, and only for `require` -/
theorem loaded_only_grows_by_require (f : Frame) (loaded : List Bytes) :
    (∀ e ∈ loaded, e ∈ completeCb f loaded) ∧ (f.d.special ≠ .require → completeCb f loaded = loaded) := by
  fun_cases completeCb f loaded with
  | case1 h => exact ⟨fun _ he => mem_addExts.mpr (.inl he), fun hne => absurd h hne⟩
  | case2 => exact ⟨fun _ h => h, fun _ => rfl⟩

/-- non-vacuity: without `require` the model rejects `fileinto`, naming the extension -/
example : Show.outcome (sb "fileinto \"a\";") (parse Generated.builtinTable (sb "fileinto \"a\";"))
    = "reject 1 1 8 extNotLoaded 66696c65696e746f" := by decide +kernel

/-- one delivered token changes the loaded list only as the `;` that completes a `require`, by that
    command's capability arguments -/
theorem token_changes_loaded_only_by_require (T : Table) (s s' : PState) (tok : Tok)
    (h : deliver T s tok = .ok s') : ∀ e ∈ s'.loaded, e ∈ s.loaded ∨ Loaded.Origin s tok e :=
  Loaded.deliver_loaded T s tok s' h

/-- **trace level**: after any prefix of the token stream of a parse (initial state: nothing loaded), each
    loaded name was put there by a `require` command completed by an earlier `;` -/
theorem loaded_names_come_from_completed_requires (T : Table) (toks : List Tok) (s' : PState) (m : Nat)
    (h : feed T toks {} 0 = .done s' m) :
    ∀ e ∈ s'.loaded, ∃ pre tok post sm k, toks = pre ++ tok :: post ∧ feed T pre {} 0 = .done sm k ∧
      tok.kind = .semicolon ∧ ∃ g rest, sm.stack = g :: rest ∧ g.d.special = .require ∧
        e ∈ (capabilityArgs g.st.arguments).map (B.stripC 34) :=
  fun e he => (Loaded.feed_loaded_origin T toks {} 0 s' m h e he).resolve_left List.not_mem_nil

/-- **use preceded by require (commands)**: if, after the prefix `pre` of a parse, the parser creates an
    instance of a command bound to extension `e`, then an earlier `;` of `pre` completed a `require` naming `e` -/
theorem command_use_is_preceded_by_require (T : Table) (pre : List Tok) (sm : PState) (m : Nat)
    (h : feed T pre {} 0 = .done sm m) (ident : Bytes) (d : CmdDef) (e : Bytes)
    (hget : getCommand T sm.loaded ident true = .ok d) (hext : d.extension = some e) :
    ∃ p tok post s0 k, pre = p ++ tok :: post ∧ feed T p {} 0 = .done s0 k ∧ tok.kind = .semicolon ∧
      ∃ g rest, s0.stack = g :: rest ∧ g.d.special = .require ∧
        e ∈ (capabilityArgs g.st.arguments).map (B.stripC 34) :=
  loaded_names_come_from_completed_requires T pre sm m h e (command_needs_loaded_extension T sm.loaded ident d hget e hext)

theorem tagged_argument_use_is_preceded_by_require (T : Table) (pre : List Tok) (sm : PState) (m : Nat)
    (h : feed T pre {} 0 = .done sm m) (cmd : Bytes) (add : Bool) (t : ArgType) (v : AVal) (st st' : CState)
    (defs : List ArgDef) (pos : Nat) (k : String)
    (hscan : scan cmd sm.loaded true add t v st defs pos = .ok (st', .arg k)) :
    ∃ a ∈ defs, a.name = k ∧ (a.required = false → ∀ e, a.extension = some e →
      ∃ p tok post s0 k0, pre = p ++ tok :: post ∧ feed T p {} 0 = .done s0 k0 ∧ tok.kind = .semicolon ∧
        ∃ g rest, s0.stack = g :: rest ∧ g.d.special = .require ∧
          e ∈ (capabilityArgs g.st.arguments).map (B.stripC 34)) := by
  obtain ⟨a, ha, hk, _, hgate⟩ := tagged_argument_needs_loaded_extension cmd sm.loaded add t v st st' defs pos k hscan
  exact ⟨a, ha, hk, fun hr e he => loaded_names_come_from_completed_requires T pre sm m h e (hgate hr e he)⟩

theorem lexer_is_the_modelled_one :
    Generated.lexRuleNames = TokKind.all.map TokKind.name ∧ Generated.lexRulePatterns = TokKind.patterns ∧
      Generated.parserPatterns = TokKind.auxPatterns := Generated.lexer_is_the_modelled_one

end C07
