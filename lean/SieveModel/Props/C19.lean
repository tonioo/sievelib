import SieveModel.Props.C06
import SieveModel.Lemmas.Readback
/-!
# C19 — What you put into a filter is what you read back

Every list-valued argument is read back through `tools.to_list` (model: `ToList.toList`, compared with
the code on every run).  Proved: for every non-empty list of items that contain no comma and neither
start nor end with a double quote, reading back the rendered list gives exactly the items
(`list_read_back_exact`); the conditions are necessary (`comma_breaks_read_back`,
`quote_breaks_read_back` — the known findings KF-C19-1 / KF-C19-2 are these two theorems seen from the
code's side).  `header_condition_reads_back`: `args_as_tuple` (model `Readback.headerTuple`) of a `header` test that
holds `quote h`, a tag and `quote k` — whatever else it carries — returns `(h, tag, k)` for every `h`, `k` without
double quote, backslash and comma; under a `not` the tag comes back as `:not…`
(`negated_header_condition_reads_back`).  The read-back functions, the loader and the renderer are tied to the code by the
`factory-roundtrip` correspondence: build → read back → render → parse → load → read back, the real code against the
composed Lean models, on documented and malformed definitions; the other shapes — `exists`, `size`, `envelope` with lists, `body` with its transform, `currentdate` with and without a relational
match — read back exactly for non-empty lists of plain strings (`…_condition_reads_back`); values with commas or quotes are the
known findings above.
-/
namespace C19
open ToList Readback

/-- `strip('"')` of a quoted value that neither begins nor ends with a quote gives the value back -/
theorem strip_quote_roundtrip (v : Bytes) (h1 : v.head? ≠ some 34) (h2 : v.getLast? ≠ some 34) :
    B.stripC 34 ([34] ++ v ++ [34]) = v := by
  have e : B.stripL 34 ([34] ++ v ++ [34]) = B.stripL 34 (v ++ [34]) := by simp [B.stripL]
  unfold B.stripC
  rw [e]
  cases v with
  | nil => simp [B.stripL]
  | cons x xs =>
    have a : B.stripL 34 (x :: xs ++ [34]) = x :: xs ++ [34] := B.stripL_of_head h1
    have b : B.stripL 34 (34 :: (x :: xs).reverse) = (x :: xs).reverse := by
      rw [B.stripL, if_pos (by decide)]; exact B.stripL_of_head (by rwa [List.head?_reverse])
    rw [a, List.reverse_append, List.reverse_singleton, List.singleton_append, b, List.reverse_reverse]

open ToList in
/-- splitting at commas undoes joining with commas, for pieces that contain none -/
theorem splitComma_joinComma (items : List Bytes) (hne : items ≠ []) (h : ∀ v ∈ items, ∀ c ∈ v, c ≠ 44) :
    splitComma (joinComma items) = items := by
  -- a comma-free piece in front goes into the first part of what follows
  have piece : ∀ (v : Bytes), (∀ c ∈ v, c ≠ 44) → ∀ rest p ps, splitComma rest = p :: ps →
      splitComma (v ++ rest) = (v ++ p) :: ps := by
    intro v hv rest p ps hr
    induction v with
    | nil => exact hr
    | cons c cs ih =>
      have hc : (c == 44) = false := by simpa using hv c (by simp)
      simp only [List.cons_append, splitComma, hc, Bool.false_eq_true, if_false, ih fun x hx => hv x (by simp [hx])]
  induction items with
  | nil => exact absurd rfl hne
  | cons a rest ih =>
    cases rest with
    | nil => simpa [joinComma] using piece a (h a (by simp)) [] [] [] rfl
    | cons b r =>
      have : joinComma (a :: b :: r) = a ++ 44 :: joinComma (b :: r) := by simp [joinComma]
      rw [this, piece a (h a (by simp)) _ [] _ rfl, List.append_nil, ih (by simp) fun v hv => h v (by simp [hv])]

open ToList in
/-- **exact read-back of lists**: non-empty, items free of commas, not starting or ending with a quote -/
theorem list_read_back_exact (items : List Bytes) (hne : items ≠ [])
    (hc : ∀ v ∈ items, ∀ c ∈ v, c ≠ 44)
    (hq : ∀ v ∈ items, v.head? ≠ some 34 ∧ v.getLast? ≠ some 34) :
    toList (render items) = items := by
  unfold toList render inner
  have h1 : (List.drop 1 ([91] ++ joinComma (items.map (fun v => [34] ++ v ++ [34])) ++ [93])).dropLast
      = joinComma (items.map (fun v => [34] ++ v ++ [34])) := by simp
  rw [h1, splitComma_joinComma _ (by simpa using hne)]
  · simp only [if_true, List.map_map]
    exact (List.map_congr_left fun v hv => strip_quote_roundtrip v (hq v hv).1 (hq v hv).2).trans (List.map_id _)
  · intro v hv c hcv
    simp only [List.mem_map] at hv
    obtain ⟨w, hw, rfl⟩ := hv
    simp only [List.mem_append, List.mem_cons, List.not_mem_nil, or_false] at hcv
    rcases hcv with (rfl | hcw) | rfl
    · decide
    · exact hc w hw c hcw
    · decide

open ToList in
/-- the comma condition is necessary: a value containing a comma comes back as two values (KF-C19-1) -/
theorem comma_breaks_read_back : toList (render [sb "a,b"]) = [sb "a", sb "b"] := by decide +kernel

open ToList in
/-- so is the quote condition: a value that ends with a quote loses it (KF-C19-2 concerns the escaped form) -/
theorem quote_breaks_read_back : toList (render [sb "say \""]) = [sb "say "] := by decide +kernel

open ToList in
/-- an empty rendered list reads back as one empty string, not as no item -/
theorem empty_list_reads_back_as_one_empty_item : toList (sb "[]") = [[]] := by decide +kernel

theorem quote_plain {v : Bytes} (h : plain v) : Factory.quote v = [34] ++ v ++ [34] := by
  have : Factory.escape v = v := by
    induction v with
    | nil => rfl
    | cons c cs ih =>
      have hc := h c (by simp)
      simp only [Factory.escape, beq_iff_eq, hc.2.1, hc.1, if_false, ih fun x hx => h x (by simp [hx])]
  rw [Factory.quote, this]

theorem plain_head_last {v : Bytes} (h : plain v) : v.head? ≠ some 34 ∧ v.getLast? ≠ some 34 :=
  ⟨fun e => (h 34 (List.mem_of_head? e)).1 rfl, fun e => (h 34 (List.mem_of_getLast? e)).1 rfl⟩

theorem strip_quote {v : Bytes} (h : plain v) : strip (Factory.quote v) = v := by
  rw [quote_plain h]; exact strip_quote_roundtrip v (plain_head_last h).1 (plain_head_last h).2

theorem hasComma_quote {v : Bytes} (h : plain v) : hasComma (.s (Factory.quote v)) = false := by
  have hv : (44 : UInt8) ∉ v := fun hm => (h 44 hm).2.2 rfl
  simp [hasComma, quote_plain h, hv]

/-- a non-empty list of plain strings, written by the factory, read back by `to_list` -/
theorem listOrOne_quoteList {items : List Bytes} (hne : items ≠ []) (h : ∀ v ∈ items, plain v) :
    listOrOne (Factory.quoteList items) = items := by
  have : Factory.quoteList items = render items := by
    unfold Factory.quoteList render
    rw [List.map_congr_left fun v hv => quote_plain (h v hv)]
  rw [this, listOrOne, if_pos (by simp [render, B.startsWith])]
  exact list_read_back_exact items hne (fun v hv c hc => (h v hv c hc).2.2) fun v hv => plain_head_last (h v hv)

/-- **a header condition built from plain strings reads back exactly**: whatever else the test carries (a comparator,
    other arguments in any order), `args_as_tuple` of a `header` test whose header name, match tag and key are
    `quote h`, `tag`, `quote k` returns `(h, tag, k)` -/
theorem header_condition_reads_back (name : Bytes) (args extra : List Arg) (children : List Node) (comments : List Bytes)
    (h tag k : Bytes) (hh : Readback.plain h) (hk : Readback.plain k)
    (a1 : assocGet args "header-names" = some (.str "header-names" (Factory.quote h)))
    (a2 : assocGet args "match-type" = some (.str "match-type" tag))
    (a3 : assocGet args "key-list" = some (.str "key-list" (Factory.quote k))) :
    Readback.headerTuple (.mk name args extra children comments) = .ok [.s h, .s tag, .s k] := by
  simp only [headerTuple, arg_str a1, arg_str a2, arg_str a3, bind, Except.bind, hasComma_quote hh, hasComma_quote hk,
    Bool.false_eq_true, if_false, asStr, pure, Except.pure, strip_quote hh, strip_quote hk, List.cons_append, List.nil_append]

/-- the same condition under a `not`: the tag comes back as `:not…` (the tag's second character is not a UTF-8
    continuation byte: tags are ASCII) -/
theorem negated_header_condition_reads_back (h tag k : Bytes)
    (ht : ∀ c, tag.head? = some c → (c &&& 0xC0 == 0x80) = false) :
    Readback.negated (sb "header") [.s h, .s (58 :: tag), .s k] = .ok [.s h, .s (sb ":not" ++ tag), .s k] := by
  unfold Readback.negated
  rw [if_pos (by rw [beq_self_eq_true]; rfl)]
  cases tag with
  | nil => rfl
  | cons c cs =>
    -- `x[1:]` drops the colon and nothing more
    have e : Readback.dropChar (58 :: c :: cs) = c :: cs := by
      rw [Readback.dropChar, List.dropWhile_cons_of_neg (by rw [ht c rfl]; decide)]
    simp only [Readback.notTag, e, bind, Except.bind, pure, Except.pure]

/-- non-vacuity: the premises hold for the tree the factory builds for `("Subject", ":contains", "offer")` -/
example : Readback.headerTuple (.mk (sb "header")
      [.str "match-type" (sb ":contains"), .str "header-names" (Factory.quote (sb "Subject")), .str "key-list" (Factory.quote (sb "offer"))] [] [] [])
    = .ok [.s (sb "Subject"), .s (sb ":contains"), .s (sb "offer")] :=
  header_condition_reads_back _ _ _ _ _ (sb "Subject") (sb ":contains") (sb "offer")
    (by decide +kernel) (by decide +kernel) (by simp [assocGet, Arg.key]) (by simp [assocGet, Arg.key]) (by simp [assocGet, Arg.key])

open Readback in
/-- **exists / notexists**: a non-empty list of names without double quote, backslash and comma reads back exactly -/
theorem exists_condition_reads_back (name : Bytes) (args extra : List Arg) (children : List Node) (comments : List Bytes)
    (names : List Bytes) (hne : names ≠ []) (hp : ∀ v ∈ names, plain v)
    (a1 : assocGet args "header-names" = some (.str "header-names" (Factory.quoteList names))) :
    existsTuple (.mk name args extra children comments) = .ok (.s (sb "exists") :: names.map RVal.s) := by
  simp only [existsTuple, arg_str a1, bind, Except.bind, flat, pure, Except.pure, listOrOne_quoteList hne hp]

open Readback in
theorem size_condition_reads_back (name : Bytes) (args extra : List Arg) (children : List Node) (comments : List Bytes)
    (cmp lim : Bytes)
    (a1 : assocGet args "comparator" = some (.str "comparator" cmp))
    (a2 : assocGet args "limit" = some (.str "limit" lim)) :
    sizeTuple (.mk name args extra children comments) = .ok [.s (sb "size"), .s cmp, .s lim] := by
  simp only [sizeTuple, arg_str a1, arg_str a2, bind, Except.bind, pure, Except.pure]

open Readback in
theorem envelope_condition_reads_back (name : Bytes) (args extra : List Arg) (children : List Node) (comments : List Bytes)
    (tag : Bytes) (hs ks : List Bytes) (hne1 : hs ≠ []) (hne2 : ks ≠ []) (hp1 : ∀ v ∈ hs, plain v) (hp2 : ∀ v ∈ ks, plain v)
    (a1 : assocGet args "match-type" = some (.str "match-type" tag))
    (a2 : assocGet args "header-list" = some (.str "header-list" (Factory.quoteList hs)))
    (a3 : assocGet args "key-list" = some (.str "key-list" (Factory.quoteList ks))) :
    envelopeTuple (.mk name args extra children comments) = .ok [.s (sb "envelope"), .s tag, .l hs, .l ks] := by
  simp only [envelopeTuple, arg_str a1, arg_str a2, arg_str a3, bind, Except.bind, flat, asStr, pure, Except.pure,
    listOrOne_quoteList hne1 hp1, listOrOne_quoteList hne2 hp2]

open Readback in
theorem body_condition_reads_back (name : Bytes) (args extra : List Arg) (children : List Node) (comments : List Bytes)
    (bt tag : Bytes) (ks : List Bytes) (hne : ks ≠ []) (hp : ∀ v ∈ ks, plain v)
    (a1 : assocGet args "body-transform" = some (.str "body-transform" bt))
    (a2 : assocGet args "match-type" = some (.str "match-type" tag))
    (a3 : assocGet args "key-list" = some (.str "key-list" (Factory.quoteList ks))) :
    bodyTuple (.mk name args extra children comments) = .ok ([.s (sb "body"), .s bt, .s tag] ++ ks.map RVal.s) := by
  simp only [bodyTuple, arg_str a1, arg_str a2, arg_str a3, bind, Except.bind, flat, asStr, pure, Except.pure,
    listOrOne_quoteList hne hp]

open Readback in
theorem currentdate_condition_reads_back (name : Bytes) (args extra : List Arg) (children : List Node) (comments : List Bytes)
    (zone tag dp : Bytes) (ks : List Bytes) (hne : ks ≠ []) (hp : ∀ v ∈ ks, plain v) (hz : plain zone) (hd : plain dp)
    (hrel : (tag == sb ":count" || tag == sb ":value") = false)
    (e1 : assocGet extra "zone" = some (.str "zone" (Factory.quote zone)))
    (a2 : assocGet args "match-type" = some (.str "match-type" tag))
    (a3 : assocGet args "date-part" = some (.str "date-part" (Factory.quote dp)))
    (a4 : assocGet args "key-list" = some (.str "key-list" (Factory.quoteList ks))) :
    currentdateTuple (.mk name args extra children comments) =
      .ok ([.s (sb "currentdate"), .s (sb ":zone"), .s zone, .s tag, .s dp] ++ ks.map RVal.s) := by
  simp only [currentdateTuple, extra_str e1, arg_str a2, arg_str a3, arg_str a4, bind, Except.bind, flat, asStr, pure,
    Except.pure, hrel, Bool.false_eq_true, if_false, strip_quote hz, strip_quote hd, listOrOne_quoteList hne hp,
    List.append_nil, List.cons_append, List.nil_append]

open Readback in
theorem currentdate_relational_condition_reads_back (name : Bytes) (args extra : List Arg) (children : List Node)
    (comments : List Bytes) (zone tag op dp : Bytes) (ks : List Bytes) (hne : ks ≠ []) (hp : ∀ v ∈ ks, plain v)
    (hz : plain zone) (hd : plain dp) (ho : plain op)
    (hrel : (tag == sb ":count" || tag == sb ":value") = true)
    (e1 : assocGet extra "zone" = some (.str "zone" (Factory.quote zone)))
    (e2 : assocGet extra "match-type" = some (.str "match-type" (Factory.quote op)))
    (a2 : assocGet args "match-type" = some (.str "match-type" tag))
    (a3 : assocGet args "date-part" = some (.str "date-part" (Factory.quote dp)))
    (a4 : assocGet args "key-list" = some (.str "key-list" (Factory.quoteList ks))) :
    currentdateTuple (.mk name args extra children comments) =
      .ok ([.s (sb "currentdate"), .s (sb ":zone"), .s zone, .s tag, .s op, .s dp] ++ ks.map RVal.s) := by
  simp only [currentdateTuple, extra_str e1, extra_str e2, arg_str a2, arg_str a3, arg_str a4, bind, Except.bind, flat, asStr, pure,
    Except.pure, hrel, if_true, strip_quote hz, strip_quote hd, strip_quote ho, listOrOne_quoteList hne hp,
    List.cons_append, List.nil_append]

/-- non-vacuity: an `exists` test holding two names -/
example : Readback.existsTuple (.mk (sb "exists") [.str "header-names" (Factory.quoteList [sb "X-A", sb "Notes"])] [] [] []) =
    .ok [.s (sb "exists"), .s (sb "X-A"), .s (sb "Notes")] :=
  exists_condition_reads_back _ _ _ _ _ [sb "X-A", sb "Notes"] (by simp) (by decide +kernel) (by simp [assocGet, Arg.key])

end C19
