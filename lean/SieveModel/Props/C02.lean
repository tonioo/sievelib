import SieveModel.Lemmas.Lex
import SieveModel.Model.Show
import SieveModel.Lemmas.Pos
import SieveModel.Lemmas.Machine
import SieveModel.Lemmas.NoCrash
import SieveModel.Generated.Tables
import SieveModel.Generated.LexRules
import SieveModel.Lemmas.Regenerated
import SieveModel.Lemmas.LiveTable
/-!
# C02 — Parsing always terminates with a verdict: no exception, no hang

Model: `Machine.parse` returns `accept | reject | crash | hang`; Python exceptions escaping
`Parser.parse` are `crash`, a lexer rewind without progress is `hang`.

Proved here (all inputs, all tables):
* the lexer terminates and yields at most one token per input byte;
* the token loop stops at the first rejection and delivers a token at most twice (structure of
  `Machine.deliver`), and a command cannot trigger the lexer rewind twice (`reassign_once`);
* a rejection carries a line number `1 ≤ N ≤ 1 + #newlines`.

* **the full statement**: for every command table satisfying the decidable condition `Safe.TableSafe`
  and every input, `Machine.parse` ends with an acceptance or a located rejection — no exception other
  than the parser's own (`crash`), no token delivered for ever (`hang`).  The proof is an invariant
  over the command stack and the bracket stack (`Lemmas/Invariant.lean`, `Lemmas/NoCrash.lean`);
  `TableSafe` is discharged for the table regenerated from `/repo` by kernel evaluation
  (`live_table_safe`), so a change of `commands.py` that leaves it breaks this file.
* the hypothesis is needed: `unsafe_table_crashes` exhibits a three-command table (an *action* taking
  a test) on which the model raises — and so does the real parser when such a command is registered
  with `add_commands` (DESIGN §21).
-/
namespace C02

/-- the lexer patterns of the code are, text for text, the ones the model's recognisers were written for
    (the termination and progress theorems below are about those recognisers) -/
theorem lexer_patterns_are_the_modelled_ones :
    Generated.lexRuleNames = TokKind.all.map TokKind.name ∧ Generated.lexRulePatterns = TokKind.patterns :=
  ⟨Generated.lexer_is_the_modelled_one.1, Generated.lexer_is_the_modelled_one.2.1⟩

/-- the lexer always terminates with a result (never the `none` = out-of-fuel case) and produces
    at most `|text|` tokens: lexer iterations are linear in the input -/
theorem lexer_terminates_linear (text : Bytes) :
    ∃ r, Lex.lex text = some r ∧ r.toks.length ≤ text.length :=
  Lex.lex_total text

theorem lexer_rule_progress (t : Bytes) (k : TokKind) (n : Nat) (h : Lex.one t = some (k, n)) :
    1 ≤ n ∧ n ≤ t.length :=
  Lex.one_bounds t k n h

/-- `parse` never reports the lexer running out of fuel: a `hang` outcome can only come from a
    token being re-delivered twice -/
theorem parse_hang_only_by_double_rewind (T : Table) (text : Bytes) (h : Machine.parse T text = .hang) :
    ∃ r, Lex.lex text = some r ∧ Machine.feed T r.toks {} 0 = .stop .hang := by
  obtain ⟨r, hr, _⟩ := Lex.lex_total text
  refine ⟨r, hr, ?_⟩
  unfold Machine.parse at h
  rw [hr] at h
  replace h : Machine.run T r.endPos r.err r.toks {} 0 = .hang := h
  revert h
  fun_cases Machine.run T r.endPos r.err r.toks {} 0 with
  | case1 _ o ho => rintro rfl; exact ho
  | case2 => nofun
  | case3 => exact fun h => absurd h (Safe.finish_verdict _ _ _).2

/-- the D1 repair: `reassign_arguments` succeeds at most once per command, so the same command
    cannot make the lexer rewind twice -/
theorem rewind_needs_progress (f f' : Frame) (h : Machine.reassign f = some f') :
    Machine.reassign f' = none :=
  Machine.reassign_once f f' h

theorem reject_line_in_range (text : Bytes) (p : Nat) :
    1 ≤ Lex.lineno text p ∧ Lex.lineno text p ≤ 1 + B.count 10 text :=
  Lex.lineno_bounds text p

/-- non-vacuity: a concrete script on which the model gives a verdict with a line number -/
example : Show.outcome (sb "keep\nfoo;") (Machine.parse [] (sb "keep\nfoo;"))
    = "reject 1 1 4 unknownCommand 6b656570" := by decide +kernel

theorem live_table_safe : Safe.TableSafe Generated.builtinTable := Live.tableSafe

theorem parse_always_verdict (T : Table) (hT : Safe.TableSafe T) (text : Bytes) (prev : PState) :
    (∃ r, Machine.parse T text prev = .accept r) ∨ (∃ p n e, Machine.parse T text prev = .reject p n e) := by
  obtain ⟨h1, h2⟩ := Safe.parse_verdict T hT text prev
  cases h : Machine.parse T text prev with
  | accept r => exact Or.inl ⟨r, rfl⟩
  | reject p n e => exact Or.inr ⟨p, n, e, rfl⟩
  | crash w => exact absurd h (h1 w)
  | hang => exact absurd h h2

/-- **C02 for the library's own command set**: every byte string gets a verdict, whatever the parser
    object was used for before -/
theorem parse_always_verdict_live (text : Bytes) (prev : PState) :
    (∃ r, Machine.parse Generated.builtinTable text prev = .accept r) ∨
    (∃ p n e, Machine.parse Generated.builtinTable text prev = .reject p n e) :=
  parse_always_verdict _ live_table_safe text prev

/-- every prefix of the token loop keeps the stack/bracket invariant (what the proof rests on) -/
theorem token_loop_invariant (T : Table) (hT : Safe.TableSafe T) (toks : List Tok) :
    match Machine.feed T toks {} 0 with
    | .stop o => Safe.Verdict o
    | .done s _ => Safe.Inv s :=
  Safe.feed_spec T hT toks {} 0 Safe.Inv.init

/-- a token is delivered at most twice: after a lexer rewind the state is `Calm` and cannot rewind again -/
theorem no_double_rewind (T : Table) (hT : Safe.TableSafe T) (s : PState) (tok : Tok) (h : Safe.Inv s) (s1 s2 : PState)
    (h1 : Machine.step T s tok = .rewind s1) : Machine.step T s1 tok ≠ .rewind s2 := by
  have := Safe.step_spec T hT s tok h
  rw [h1] at this
  exact Safe.calm_no_rewind T s1 tok this.2 s2

namespace Witness

def tArg : ArgDef := { name := "test", types := [.test], required := true, values := none, extValues := [], extension := none, extra := none }
def dIf : CmdDef := { key := sb "If", name := sb "if", kind := .control, args := [tArg], acceptChildren := true, variableArgs := false, nonDet := false, mustFollow := none, extension := none, expectedFirst := some [.identifier], special := .none }
def dTrue : CmdDef := { key := sb "True", name := sb "true", kind := .test, args := [], acceptChildren := false, variableArgs := false, nonDet := false, mustFollow := none, extension := none, expectedFirst := none, special := .none }
def dFoo : CmdDef := { key := sb "Foo", name := sb "foo", kind := .action, args := [tArg], acceptChildren := false, variableArgs := false, nonDet := false, mustFollow := none, extension := none, expectedFirst := none, special := .none }
def unsafeTable : Table := [dIf, dTrue, dFoo]

end Witness

/-- the hypothesis `TableSafe` cannot be dropped: with an action that takes a test, the parser raises
    (`AttributeError` in Python — replayed by the C02 check on the real code) -/
theorem unsafe_table_crashes :
    ¬ Safe.TableSafe Witness.unsafeTable ∧
    Show.outcome (sb "if true { foo true { } }") (Machine.parse Witness.unsafeTable (sb "if true { foo true { } }"))
      = "crash AttributeError: NoneType (up without current command)" := by
  constructor
  · decide +kernel
  · decide +kernel

theorem lexer_is_the_modelled_one :
    Generated.lexRuleNames = TokKind.all.map TokKind.name ∧ Generated.lexRulePatterns = TokKind.patterns ∧
      Generated.parserPatterns = TokKind.auxPatterns := Generated.lexer_is_the_modelled_one

end C02
