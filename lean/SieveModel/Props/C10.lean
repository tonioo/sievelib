import SieveModel.Lemmas.ClientState
import SieveModel.Lemmas.Session
import SieveModel.Lemmas.AuthWrites
import SieveModel.Generated.ClientMethods
import SieveModel.Generated.MsConsts
import SieveModel.Lemmas.Regenerated
/-!
# C10 — No script command before authentication; no credentials before TLS
-/
namespace C10
open Client

def scriptVerbs : List String :=
  ["HAVESPACE", "LISTSCRIPTS", "GETSCRIPT", "PUTSCRIPT", "CHECKSCRIPT", "DELETESCRIPT", "RENAMESCRIPT", "SETACTIVE"]

/-- static half, on the method table regenerated from `class Client` on every run: every method
    that sends a script-management verb carries `@authentication_required` -/
theorem every_script_sender_is_guarded :
    ∀ m ∈ Generated.clientMethods, (∃ v ∈ m.verbs, v ∈ scriptVerbs) → m.guarded = true := by decide +kernel

/-- a non-literal command name is sent only by the (pinned) DIGEST-MD5 exchange -/
theorem dynamic_verbs_only_in_digest :
    ∀ m ∈ Generated.clientMethods, "<dynamic>" ∈ m.verbs → m.name = "_digest_md5_authentication" := by decide +kernel

/-- `authenticated = True` is assigned in exactly one place; `connect` assigns it too, but not `True` -/
theorem authenticated_set_only_by_authenticate :
    Generated.authenticatedSetTrueIn = ["__authenticate"] ∧ "connect" ∈ Generated.authenticatedSetOtherIn := by decide

/-- dynamic half: a guarded operation in an unauthenticated state raises `Error` and neither
    writes nor reads anything -/
theorem guarded_refuses_unauthenticated {α : Type} (c : Client) (f : Client → Res α)
    (h : c.authenticated = false) : guarded c f = (.error .error, c) :=
  guarded_unauthenticated c f h

/-- `connect` marks the client authenticated only when it returned True, i.e. only when the
    AUTHENTICATE exchange on THIS connection ended with OK (the flag is cleared first) -/
theorem authenticated_only_after_successful_connect (c : Client) (env : ConnEnv) (net : Net)
    (l p z : Bytes) (useTls : Bool) (m : Option Bytes)
    (h : (connect c env net l p z useTls m).2.authenticated = true) :
    (connect c env net l p z useTls m).1 = .ok true :=
  (Client.connect_spec c env net l p z useTls m).authenticated h

/-- with STARTTLS requested, the only bytes ever written on the plain channel are the STARTTLS
    command: no AUTHENTICATE and no credentials before the handshake has succeeded — whatever the
    server answers at any step, whether the handshake fails, whatever is announced -/
theorem nothing_but_starttls_in_plaintext (c : Client) (env : ConnEnv) (net : Net)
    (l p z : Bytes) (m : Option Bytes) :
    ∀ w ∈ (connect c env net l p z true m).2.writes, w.1 = false → w.2 = commandBytes (sb "STARTTLS") [] := by
  -- read off the write log: the part before the handshake is at most the STARTTLS line, the rest went out under TLS
  obtain ⟨pre, auth, hw, hpre, _⟩ := (connect_spec c env net l p z true m).writes
  intro w hmem hf
  rw [hw] at hmem
  rcases List.mem_append.mp hmem with h1 | h1
  · rcases hpre with rfl | ⟨_, rfl⟩
    · cases h1
    · rw [List.mem_singleton.mp h1]
  · obtain ⟨b, _, rfl⟩ := List.mem_map.mp h1
    cases hf

/-- a refused, failed or unavailable STARTTLS makes connect fail: success implies the TLS channel -/
theorem connect_success_implies_tls (c : Client) (env : ConnEnv) (net : Net) (l p z : Bytes) (m : Option Bytes)
    (h : (connect c env net l p z true m).1 = .ok true) :
    (connect c env net l p z true m).2.tls = true ∧ env.tlsOk = true :=
  (Client.connect_spec c env net l p z true m).tls rfl h

/-- the capabilities used for mechanism selection are read after the handshake: the wrapped
    client starts with an empty capability map and an empty buffer -/
theorem capabilities_reset_at_handshake (c : Client) :
    (tlsWrapped c).caps = [] ∧ (tlsWrapped c).r.buf = [] ∧ (tlsWrapped c).tls = true := ⟨rfl, rfl, rfl⟩

example : (havespace { r := { buf := [], net := { stream := [], sched := [] } } } (sb "n") 1).1 = .error .error := rfl

/-- **an unauthenticated client sends no script command, whatever is tried and however often**: every script
    operation of any session raises Error and the client — its write log included — stays exactly what it was -/
theorem unauthenticated_sessions_write_nothing (ops : List Op) (c : Client) (h : c.authenticated = false)
    (hs : ∀ op ∈ ops, op.onScripts = true) :
    (runOps c ops).2 = c ∧ ∀ r ∈ (runOps c ops).1, r = .error .error := by
  induction ops with
  | nil => exact ⟨rfl, nofun⟩
  | cons op rest ih =>
    obtain ⟨ih1, ih2⟩ := ih fun o ho => hs o (List.mem_cons_of_mem _ ho)
    simp only [runOps, runOp_unauthenticated c op h (hs op List.mem_cons_self)]
    exact ⟨ih1, fun r hr => (List.mem_cons.mp hr).elim id (ih2 r)⟩

/-- **no operation authenticates, secures or reconnects the client behind the caller's back**: after any session the
    authenticated, TLS and connected flags are what they were, and everything written during it went out on the channel
    the session started on (so after `connect` with STARTTLS — `connect_success_implies_tls` — every later command of the
    session travels on the secured channel) -/
theorem sessions_keep_the_connection_state (ops : List Op) (c : Client) :
    (runOps c ops).2.authenticated = c.authenticated ∧ (runOps c ops).2.tls = c.tls ∧
    (runOps c ops).2.connected = c.connected ∧
    ∃ ws : List Bytes, (runOps c ops).2.writes = c.writes ++ ws.map (fun b => (c.tls, b)) := by
  have h := runOps_keeps ops c
  exact ⟨h.auth, h.tls, h.conn, h.writes⟩

/-- **everything `connect` ever writes**: at most one STARTTLS line in plaintext — only when TLS was asked for — followed by
    nothing or by the lines of ONE authentication exchange, which travel on the secured channel whenever TLS was asked for.
    No script command, no second mechanism, no credentials in plaintext after a request for TLS — whatever the server says -/
theorem connect_complete_write_log (c : Client) (env : ConnEnv) (net : Net) (l p z : Bytes) (useTls : Bool) (m : Option Bytes) :
    ∃ (pre : List (Bool × Bytes)) (auth : List Bytes),
      (connect c env net l p z useTls m).2.writes = pre ++ auth.map (fun b => (useTls, b)) ∧
      (pre = [] ∨ (useTls = true ∧ pre = [(false, commandBytes (sb "STARTTLS") [])])) ∧
      (auth = [] ∨ ∃ mech, auth = authLines mech l p z) :=
  (Client.connect_spec c env net l p z useTls m).writes

theorem client_patterns_are_the_modelled_ones : Generated.clientPatterns = Client.patterns :=
  Generated.client_patterns_are_the_modelled_ones

end C10
