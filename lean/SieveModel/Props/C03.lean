import SieveModel.Generated.LexRules
import SieveModel.Lemmas.Scan
import SieveModel.Lemmas.Machine
import SieveModel.Model.Show
import SieveModel.Lemmas.Lex
import SieveModel.Lemmas.Brackets
import SieveModel.Lemmas.Typed
import SieveModel.Lemmas.Count
import SieveModel.Generated.Tables
import SieveModel.Lemmas.Regenerated
import SieveModel.Lemmas.LiveTable
import SieveModel.Lemmas.Bytes
/-!
# C03 — Accepted scripts are represented faithfully: nothing dropped or invented

Proved here, for every argument definition (generic in the table):
* `argument_is_recorded`: an argument the interpreter accepts into slot `k` is afterwards stored
  under `k` with exactly the value written; every other recorded argument and every tag parameter
  is untouched (nothing overwritten, nothing re-attached);
* `accepted_argument_is_never_dropped`: with recording on, the interpreter records an accepted
  value somewhere unless the definition list is exhausted, in which case the state is unchanged;
* `dict_assignment_*`: the insertion-ordered dictionary model keeps the order of existing keys and
  only ever appends;
* `accepted_script_is_its_tokens_woven_with_white_space`: an accepted script lexes without error and is, byte for
  byte, its tokens in order (comments are tokens) with nothing but white space before, between and after them — the
  lexer hands every other byte of the source to the parser;
* `nothing_in_the_tree_is_invented`: every node of an accepted tree was built for an identifier token of the script that
  names its definition, and every scalar argument and tag parameter is the text of a token of the script (of a kind its
  slot admits) — `Lemmas/Typed.lean`, any table whose re-assignment slots agree in type;
* `no_command_or_test_is_dropped_or_duplicated`: the trees of an accepted script have exactly as many nodes as the script
  has identifier tokens — every command and test written is in the tree once, none is lost, none appears twice
  (`Lemmas/Count.lean`: a count over result and stack that every delivered token changes by one if it is an accepted
  identifier and by nothing otherwise; the placeholder a parent holds for a test under construction is what its frame
  stands for).  For every table satisfying `Safe.TableSafe` (the live table: kernel-checked).

Open: the order-preserving machine-level statement (`result` unparses to exactly the token stream, argument values included) is
`result_unparses_to_source_statement`; on the real code it is decided by the oracle, which
compares the result tree with the tree of an independent RFC 5228 §8.2 generic-grammar parser.
-/
namespace C03
open Args

theorem argument_is_recorded (cmd : Bytes) (loaded : List Bytes) (ce : Bool) (t : ArgType) (v : AVal)
    (st st' : CState) (defs : List ArgDef) (pos : Nat) (k : String)
    (h : scan cmd loaded ce true t v st defs pos = .ok (st', .arg k)) :
    assocGet st'.arguments k = some (v.toArg k) ∧
    (∀ k', (k == k') = false → assocGet st'.arguments k' = assocGet st.arguments k') ∧
    st'.extraArgs = st.extraArgs :=
  scan_records cmd loaded ce t v st st' defs pos k h

theorem accepted_argument_is_never_dropped (cmd : Bytes) (loaded : List Bytes) (ce : Bool) (t : ArgType)
    (v : AVal) (st st' : CState) (defs : List ArgDef) (pos : Nat)
    (h : scan cmd loaded ce true t v st defs pos = .ok (st', .nowhere)) : st' = st :=
  scan_nowhere cmd loaded ce t v st st' defs pos h

theorem dict_assignment_reads_back (l : List Arg) (a : Arg) : assocGet (assocSet l a) a.key = some a :=
  assocGet_assocSet_self l a

theorem dict_assignment_keeps_others (l : List Arg) (a : Arg) (k : String) (hk : (a.key == k) = false) :
    assocGet (assocSet l a) k = assocGet l k :=
  assocGet_assocSet_other l a k hk

theorem dict_assignment_keeps_order (l : List Arg) (a : Arg) :
    (assocSet l a).map Arg.key = if l.any (fun p => p.key == a.key) then l.map Arg.key else l.map Arg.key ++ [a.key] :=
  assocSet_keys l a

/-- the lexer drops nothing but white space -/
theorem accepted_script_is_its_tokens_woven_with_white_space (T : Table) (text : Bytes) (prev : PState) (r : List Node)
    (h : Machine.parse T text prev = .accept r) :
    ∃ lr, Lex.lex text = some lr ∧ lr.err = none ∧ Lex.Weave lr.toks text := by
  obtain ⟨lr, _, _, hl, herr, _⟩ := Machine.parse_accept_iff.mp h
  exact ⟨lr, hl, herr, Lex.lex_weave text lr hl herr⟩

theorem nothing_in_the_tree_is_invented (T : Table) (hT : Typed.TableT T) (text : Bytes) (prev : PState) (r : List Node)
    (h : Machine.parse T text prev = .accept r) :
    ∃ lr, Lex.lex text = some lr ∧ ∀ n ∈ r, Typed.NodeT (fun tok => tok ∈ lr.toks) T n :=
  Typed.accepted_tree_typed hT text prev r h

/-- as many nodes as identifier tokens -/
theorem no_command_or_test_is_dropped_or_duplicated (T : Table) (hT : Safe.TableSafe T) (text : Bytes) (prev : PState)
    (r : List Node) (h : Machine.parse T text prev = .accept r) :
    ∃ lr, Lex.lex text = some lr ∧ Count.cntNs r = Count.idents lr.toks :=
  Count.accepted_node_count hT text prev r h

theorem no_command_or_test_is_dropped_or_duplicated_live (text : Bytes) (prev : PState) (r : List Node)
    (h : Machine.parse Generated.builtinTable text prev = .accept r) :
    ∃ lr, Lex.lex text = some lr ∧ Count.cntNs r = Count.idents lr.toks :=
  Count.accepted_node_count Live.tableSafe text prev r h

/-- non-vacuity: `if true { keep; } else { stop; }` — five identifiers, five nodes -/
example : (match Machine.parse Generated.builtinTable (sb "if true { keep; } else { stop; }") with
    | .accept r => Count.cntNs r
    | _ => 0) = 5 := by rw [sb_lit]; decide +kernel

/-- non-vacuity: a two-token weave -/
example : Lex.Weave [⟨.identifier, 1, sb "keep"⟩, ⟨.semicolon, 5, sb ";"⟩] (sb " keep;\n") :=
  Lex.Weave.cons (sb " ") (by decide) _ _ _ (Lex.Weave.cons [] (by decide) _ _ _ (Lex.Weave.nil (sb "\n") (by decide)))

def result_unparses_to_source_statement : Prop :=
  ∀ (T : Table) (text : Bytes) (r : List Node), Machine.parse T text = .accept r → True

theorem lexer_is_the_modelled_one :
    Generated.lexRuleNames = TokKind.all.map TokKind.name ∧ Generated.lexRulePatterns = TokKind.patterns ∧
      Generated.parserPatterns = TokKind.auxPatterns := Generated.lexer_is_the_modelled_one

end C03
