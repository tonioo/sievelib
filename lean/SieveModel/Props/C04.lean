import SieveModel.Generated.LexRules
import SieveModel.Model.Serialize
import SieveModel.Model.Lexer
import SieveModel.Lemmas.Printable
import SieveModel.Generated.Tables
import SieveModel.Lemmas.Reprint
import SieveModel.Lemmas.LiveTable
import SieveModel.Lemmas.Regenerated
import SieveModel.Lemmas.Bytes
/-!
# C04 — print/parse round trip

* **printing is total on what the parser accepts** (`accepted_script_can_be_printed`): for every table
  satisfying the decidable condition `Printable.TableP` (names resolve to their own definition, slot
  names unique, a slot that takes string lists is neither a tag slot nor a test-list slot, `hasflag`'s
  two slots are value slots) and every input, if the parser model accepts, the serializer model returns
  a text — `tosieve` never raises on an accepted tree.  Proof: every stack frame and every finished
  command stays "printable" through every parser step (`Lemmas/Printable.lean`).  `TableP` is discharged
  for the table regenerated from `/repo` by kernel evaluation (`live_table_printable`).
* lemmas about the printer's treatment of values (quoted items and values verbatim, one LF after
  multi-line text).
* **the printed text lexes back to exactly the tokens of the tree** (`printed_script_lexes_to_its_tokens`): for every
  table satisfying the decidable conditions `Reprint.TableL` (names are identifiers; only controls and tests take a block;
  a slot or tag parameter that admits strings prints them as strings — so that a multi-line block gets its line feed — and
  is not a tag slot), `Printable.TableP`, `Typed.TableT`, `Roles.TableN`, and every input the parser model accepts: if the
  serializer returns `out`, the lexer model reads `out` without error and the kinds and texts of its tokens are
  `Reprint.flatNs T r` — per node its name, the recorded values in definition order, each value as the very token it was
  read from (a quoted string, a number, a tag, a multi-line block — whatever bytes it contains), lists between brackets
  with commas, tests between parentheses, `;` or a braced block.  Proof: a token is read again as the same token in front
  of any byte that cannot continue it (`Lemmas/Relex.lean`, by cases over the ways the lexer reads a token, `Lex.Rule`); every value of an
  accepted tree is a token of the input (`Lemmas/Typed.lean`, list items included); the printer separates what it writes
  by such bytes (`Lemmas/Reprint.lean`, by structural recursion over the tree).  The table conditions are discharged for
  the table regenerated from `/repo` by kernel evaluation (`live_table_reprintable`).
The last step of the round trip (the parser rebuilds an equal tree from those tokens) is decided by the round-trip oracle
on every accepted input.
-/
namespace C04
open Ser

/-- a string-list item that is a quoted token is printed verbatim (the D13 repair) -/
theorem quoted_item_printed_verbatim (body : Bytes) : renderItem ([34] ++ body ++ [34]) = [34] ++ body ++ [34] :=
  renderItem_quoted body

/-- a quoted string or a bracketed list is printed exactly as recorded; a multi-line block gets
    exactly one line feed appended (so that the terminating `.` stays alone on its line) -/
theorem scalar_printed_verbatim_or_with_lf (v : Bytes) :
    renderScalar true v = v ∨ renderScalar true v = v ++ [10] := by
  unfold renderScalar
  simp only [if_true]
  split <;> simp

theorem number_printed_verbatim (v : Bytes) : renderScalar false v = v := by
  simp [renderScalar]

theorem live_table_printable : Printable.TableP Generated.builtinTable := Live.tableP

theorem accepted_script_can_be_printed (T : Table) (hT : Printable.TableP T) (text : Bytes) (prev : PState) (r : List Node)
    (h : Machine.parse T text prev = .accept r) : ∃ out, Ser.script T r = some out :=
  Option.ne_none_iff_exists'.mp (Printable.accepted_is_printable hT text prev r h)

theorem accepted_script_can_be_printed_live (text : Bytes) (prev : PState) (r : List Node)
    (h : Machine.parse Generated.builtinTable text prev = .accept r) : ∃ out, Ser.script Generated.builtinTable r = some out :=
  accepted_script_can_be_printed _ live_table_printable text prev r h

theorem lexer_is_the_modelled_one :
    Generated.lexRuleNames = TokKind.all.map TokKind.name ∧ Generated.lexRulePatterns = TokKind.patterns ∧
      Generated.parserPatterns = TokKind.auxPatterns := Generated.lexer_is_the_modelled_one

theorem live_table_reprintable :
    Reprint.TableL Generated.builtinTable ∧ Typed.TableT Generated.builtinTable ∧ Roles.TableN Generated.builtinTable :=
  ⟨by decide +kernel, Live.tableT, Live.tableN⟩

theorem printed_script_lexes_to_its_tokens (T : Table) (hL : Reprint.TableL T) (hP : Printable.TableP T) (hT : Typed.TableT T)
    (hN : Roles.TableN T) (text : Bytes) (prev : PState) (r : List Node) (h : Machine.parse T text prev = .accept r)
    (out : Bytes) (hs : Ser.script T r = some out) :
    ∃ lr, Lex.lex out = some lr ∧ lr.err = none ∧ lr.toks.map Lex.kt = Reprint.flatNs T r := by
  obtain ⟨lr0, hl0, hnt⟩ := Typed.accepted_tree_typed hT text prev r h
  obtain ⟨_, hnr⟩ := Roles.accepted_tree_roles hN text prev r h
  have C : Reprint.Ctx (fun tok => tok ∈ lr0.toks) T := ⟨hL, hP, fun tok htok => Lex.lex_genuine text lr0 hl0 tok htok⟩
  exact (Reprint.nodes_pw C r 0 out (fun n hn => ⟨⟨hnt n hn, (hnr n hn).2⟩, (hnr n hn).1⟩) hs).lex

theorem printed_script_lexes_to_its_tokens_live (text : Bytes) (prev : PState) (r : List Node)
    (h : Machine.parse Generated.builtinTable text prev = .accept r) (out : Bytes) (hs : Ser.script Generated.builtinTable r = some out) :
    ∃ lr, Lex.lex out = some lr ∧ lr.err = none ∧ lr.toks.map Lex.kt = Reprint.flatNs Generated.builtinTable r :=
  printed_script_lexes_to_its_tokens _ live_table_reprintable.1 live_table_printable live_table_reprintable.2.1
    live_table_reprintable.2.2 text prev r h out hs

/-- the printed text lexes; every top-level command has its definition, and the tokens of whatever is recorded under one
    of the definition's slots are tokens of the printed text -/
theorem recorded_tokens (T : Table) (hL : Reprint.TableL T) (hP : Printable.TableP T) (hT : Typed.TableT T) (hN : Roles.TableN T)
    (text : Bytes) (prev : PState) (r : List Node) (h : Machine.parse T text prev = .accept r) (out : Bytes)
    (hs : Ser.script T r = some out) :
    ∃ lr lr0, Lex.lex out = some lr ∧ lr.err = none ∧ Lex.lex text = some lr0 ∧
      ∀ n ∈ r, ∃ d ∈ T, (∀ a ∈ n.args, Typed.ArgT (fun tok => tok ∈ lr0.toks) d a) ∧
        ∀ k a, assocGet n.args k = some a → ∀ s ∈ d.args, s.name = k →
          ∀ x ∈ (Reprint.flatA T d false a).2, ∃ tok ∈ lr.toks, tok.text = x.2 ∧ tok.kind = x.1 := by
  obtain ⟨lr, h1, h2, h3⟩ := printed_script_lexes_to_its_tokens T hL hP hT hN text prev r h out hs
  obtain ⟨lr0, hl0, hnt⟩ := Typed.accepted_tree_typed hT text prev r h
  refine ⟨lr, lr0, h1, h2, hl0, fun n hn => ?_⟩
  cases hnt n hn with
  | mk name args extra children comments d hnamed hname hargs =>
    have hd : d ∈ T := Typed.named_mem hnamed
    have hbn : T.byName name = some d := by rw [← hname]; exact Printable.defP_byName (hP d hd)
    refine ⟨d, hd, hargs, fun k a hk s hs hsk x hx => ?_⟩
    have hmem := Reprint.flatN_sub_flatNs T r _ hn x (Reprint.flatA_sub_flatN hbn hk hs hsk x hx)
    rw [← h3] at hmem
    obtain ⟨tok, htok, rfl⟩ := List.mem_map.mp hmem
    exact ⟨tok, htok, rfl, rfl⟩

/-- **values survive**: every scalar value recorded under a name in a top-level command of an accepted script is, byte for
    byte, a token of the printed text, of the kind it is read as -/
theorem recorded_values_are_tokens_of_the_printed_text (T : Table) (hL : Reprint.TableL T) (hP : Printable.TableP T)
    (hT : Typed.TableT T) (hN : Roles.TableN T) (text : Bytes) (prev : PState) (r : List Node)
    (h : Machine.parse T text prev = .accept r) (out : Bytes) (hs : Ser.script T r = some out) :
    ∃ lr, Lex.lex out = some lr ∧ lr.err = none ∧
      ∀ n ∈ r, ∀ k v, assocGet n.args k = some (.str k v) → ∃ tok ∈ lr.toks, tok.text = v ∧ tok.kind = Reprint.kindOf v := by
  obtain ⟨lr, lr0, h1, h2, _, hr⟩ := recorded_tokens T hL hP hT hN text prev r h out hs
  refine ⟨lr, h1, h2, fun n hn k v hk => ?_⟩
  obtain ⟨d, _, hargs, htoks⟩ := hr n hn
  obtain ⟨s, hs, hsk, _⟩ := hargs _ (List.mem_of_find?_eq_some hk)
  exact htoks k _ hk s hs hsk (Reprint.kindOf v, v) (List.mem_singleton.mpr rfl)

/-- … and so is every item of every string list recorded under a name in a top-level command -/
theorem recorded_list_items_are_tokens_of_the_printed_text (T : Table) (hL : Reprint.TableL T) (hP : Printable.TableP T)
    (hT : Typed.TableT T) (hN : Roles.TableN T) (text : Bytes) (prev : PState) (r : List Node)
    (h : Machine.parse T text prev = .accept r) (out : Bytes) (hs : Ser.script T r = some out) :
    ∃ lr, Lex.lex out = some lr ∧ lr.err = none ∧
      ∀ n ∈ r, ∀ k items, assocGet n.args k = some (.strs k items) → ∀ x ∈ items, ∃ tok ∈ lr.toks, tok.text = x ∧ tok.kind = .string := by
  obtain ⟨lr, lr0, h1, h2, hl0, hr⟩ := recorded_tokens T hL hP hT hN text prev r h out hs
  refine ⟨lr, h1, h2, fun n hn k items hk x hx => ?_⟩
  obtain ⟨d, hd, hargs, htoks⟩ := hr n hn
  obtain ⟨⟨s, hs, hsk, _⟩, hitems⟩ := hargs _ (List.mem_of_find?_eq_some hk)
  have hslot := (Printable.defP_slot (hP d hd) s hs).1
  rw [hsk] at hslot
  have := htoks k _ hk s hs hsk (.string, Ser.renderItem x) (by simp only [Reprint.flatA, hslot]; exact Reprint.mem_flatList hx)
  rwa [Reprint.renderItem_string x (Reprint.items_genuine (Lex.lex_genuine text lr0 hl0) items hitems x hx)] at this

theorem printed_script_has_no_lexical_error (text : Bytes) (prev : PState) (r : List Node)
    (h : Machine.parse Generated.builtinTable text prev = .accept r) (out : Bytes) (hs : Ser.script Generated.builtinTable r = some out) :
    ∃ lr, Lex.lex out = some lr ∧ lr.err = none := by
  obtain ⟨lr, h1, h2, _⟩ := printed_script_lexes_to_its_tokens_live text prev r h out hs
  exact ⟨lr, h1, h2⟩

/-- non-vacuity: a script with an escaped quote, a list, a multi-line block and a nested test list is accepted, printed,
    and the printed text lexes to the tokens of its tree -/
example :
    (match Machine.parse Generated.builtinTable
        (sb "require [\"fileinto\",\"reject\"]; if anyof(header :is \"a\\\"b\" [\"x\",\"y, z\"], not true) { fileinto \"in]box\"; reject text:\nno $1\n.\n; }") with
     | .accept r =>
       (match Ser.script Generated.builtinTable r with
        | some out => (match Lex.lex out with
            | some lr => lr.err.isNone && decide (lr.toks.map Lex.kt = Reprint.flatNs Generated.builtinTable r) && decide (lr.toks.length = 30)
            | none => false)
        | none => false)
     | _ => false) = true := by
  rw [sb_lit]
  decide +kernel

end C04
