import SieveModel.Model.Client
import SieveModel.Lemmas.AuthWrites
import SieveModel.Lemmas.Base64
import SieveModel.Generated.MsConsts
/-! # C16 — SASL mechanism selection and payloads -/
namespace C16
open Client

/-- the preference order the property states, re-checked against the constant regenerated from the code -/
theorem preference_order_is_the_stated_one :
    Generated.supportedAuthMechs = ["DIGEST-MD5", "PLAIN", "LOGIN", "OAUTHBEARER"] := by decide

/-- the mechanisms `__authenticate` tries, in order: implemented ones only, and the named one alone if it is implemented;
    the first of them that the server announces is taken -/
theorem selectMech_candidates (authmech : Option Bytes) (srv : List Bytes) :
    ∃ l : List Bytes, selectMech authmech srv = l.find? (fun m => decide (m ∈ srv)) ∧ (∀ m ∈ l, m ∈ supportedMechs) ∧
      ∀ a, authmech = some a → a ∈ supportedMechs → l = [a] := by
  unfold selectMech
  cases authmech with
  | none => exact ⟨_, rfl, fun _ h => h, nofun⟩
  | some a =>
    by_cases ha : a ∈ supportedMechs
    · exact ⟨[a], by simp only [ha, decide_true, if_true], fun m hm => List.mem_singleton.mp hm ▸ ha,
        fun _ h _ => by cases h; rfl⟩
    · exact ⟨supportedMechs, by simp only [ha, decide_false, Bool.false_eq_true, if_false], fun _ h => h,
        fun _ h h' => by cases h; exact absurd h' ha⟩

theorem selected_is_supported_and_announced (authmech : Option Bytes) (srv : List Bytes) (m : Bytes)
    (h : selectMech authmech srv = some m) : m ∈ supportedMechs ∧ m ∈ srv := by
  obtain ⟨l, e, hl, _⟩ := selectMech_candidates authmech srv
  rw [e] at h
  exact ⟨hl m (List.mem_of_find?_eq_some h), by simpa using List.find?_some h⟩

theorem named_mechanism_is_the_only_candidate (a : Bytes) (srv : List Bytes) (m : Bytes)
    (ha : a ∈ supportedMechs) (h : selectMech (some a) srv = some m) : m = a := by
  obtain ⟨l, e, _, hl⟩ := selectMech_candidates (some a) srv
  rw [e, hl a rfl ha] at h
  exact List.mem_singleton.mp (List.mem_of_find?_eq_some h)

/-- nothing announced that the client implements ⇒ no mechanism (and `authenticate` sends nothing) -/
theorem none_selected_when_none_announced (authmech : Option Bytes) (srv : List Bytes)
    (h : ∀ m ∈ supportedMechs, m ∉ srv) : selectMech authmech srv = none := by
  obtain ⟨l, e, hl, _⟩ := selectMech_candidates authmech srv
  rw [e, List.find?_eq_none]
  exact fun x hx => by simpa using h x (hl x hx)

def splitNul : Bytes → List Bytes
  | [] => [[]]
  | c :: rest =>
    match splitNul rest with
    | [] => [[c]]
    | p :: ps => if c == 0 then [] :: p :: ps else (c :: p) :: ps

theorem splitNul_nulfree (a : Bytes) (h : ∀ c ∈ a, c ≠ 0) : splitNul a = [a] := by
  induction a with
  | nil => rfl
  | cons c cs ih =>
    have hc : (c == 0) = false := by simpa using h c (by simp)
    simp [splitNul, ih (fun x hx => h x (by simp [hx])), hc]

theorem splitNul_ne_nil (b : Bytes) : splitNul b ≠ [] := by
  cases b with
  | nil => exact List.cons_ne_nil _ _
  | cons x xs =>
    rw [splitNul]
    split
    · exact List.cons_ne_nil _ _
    · split <;> exact List.cons_ne_nil _ _

theorem splitNul_append (a b : Bytes) (h : ∀ c ∈ a, c ≠ 0) : splitNul (a ++ 0 :: b) = a :: splitNul b := by
  induction a with
  | nil =>
    obtain ⟨p, ps, hs⟩ := List.exists_cons_of_ne_nil (splitNul_ne_nil b)
    rw [List.nil_append, splitNul, hs]
    rfl
  | cons c cs ih =>
    rw [List.cons_append, splitNul, ih fun x hx => h x (List.mem_cons_of_mem _ hx),
      beq_eq_false_iff_ne.mpr (h c (List.mem_cons_self ..))]
    rfl

/-- RFC 4616 PLAIN: the base64 argument decodes to `authzid NUL authcid NUL passwd` and splitting at
    the NULs gives back exactly the caller's three values (for NUL-free credentials) -/
theorem plain_carries_exactly_the_credentials (login pw authz : Bytes)
    (h1 : ∀ c ∈ login, c ≠ 0) (h2 : ∀ c ∈ pw, c ≠ 0) (h3 : ∀ c ∈ authz, c ≠ 0) :
    (Base64.decode (plainPayload login pw authz)).map splitNul = some [authz, login, pw] := by
  unfold plainPayload intercalate0
  rw [Base64.decode_encode]
  simp only [Option.map, List.append_assoc, List.singleton_append]
  have e : authz ++ (0 :: login ++ 0 :: pw) = authz ++ 0 :: (login ++ 0 :: pw) := by simp
  rw [e, splitNul_append authz _ h3, splitNul_append login _ h1, splitNul_nulfree pw h2]

/-- LOGIN: each continuation line is the quoted base64 of the value -/
theorem login_lines_carry_the_credentials (v : Bytes) : Base64.decode (Base64.encode v) = some v :=
  Base64.decode_encode v

def unSaslName : Bytes → Bytes
  | 61 :: 50 :: 67 :: rest => 44 :: unSaslName rest
  | 61 :: 51 :: 68 :: rest => 61 :: unSaslName rest
  | c :: rest => c :: unSaslName rest
  | [] => []

/-- what the escaping does to one byte -/
theorem saslName_cons (c : UInt8) (l : Bytes) :
    (c = 61 ∧ saslName (c :: l) = 61 :: 51 :: 68 :: saslName l) ∨
    (c = 44 ∧ saslName (c :: l) = 61 :: 50 :: 67 :: saslName l) ∨
    ((c ≠ 61 ∧ c ≠ 44) ∧ saslName (c :: l) = c :: saslName l) := by
  by_cases h61 : c = 61
  · exact .inl ⟨h61, by simp [saslName, h61]⟩
  · by_cases h44 : c = 44
    · exact .inr (.inl ⟨h44, by simp [saslName, h44]⟩)
    · exact .inr (.inr ⟨⟨h61, h44⟩, by simp [saslName, h61, h44]⟩)

theorem saslName_roundtrip (l : Bytes) : unSaslName (saslName l) = l := by
  induction l with
  | nil => simp [saslName, unSaslName]
  | cons c cs ih =>
    rcases saslName_cons c cs with ⟨rfl, e⟩ | ⟨rfl, e⟩ | ⟨hc, e⟩ <;> rw [e]
    · simp [unSaslName, ih]
    · simp [unSaslName, ih]
    · rw [unSaslName.eq_def]; simp [hc.1, ih]

/-- the escaped user name contains no comma: it cannot end the gs2 header early -/
theorem saslName_has_no_comma (l : Bytes) : ∀ c ∈ saslName l, c ≠ 44 := by
  induction l with
  | nil => simp [saslName]
  | cons x xs ih =>
    rcases saslName_cons x xs with ⟨_, e⟩ | ⟨_, e⟩ | ⟨hc, e⟩ <;> rw [e] <;> simp only [List.forall_mem_cons]
    · exact ⟨by decide, by decide, by decide, ih⟩
    · exact ⟨by decide, by decide, by decide, ih⟩
    · exact ⟨hc.2, ih⟩

/-- the OAUTHBEARER message decodes (base64) to `n,a=<saslname>,^Aauth=Bearer <token>^A^A` -/
theorem oauthbearer_message (login token : Bytes) :
    Base64.decode (oauthPayload login token)
      = some (sb "n,a=" ++ saslName login ++ [44, 1] ++ sb "auth=Bearer " ++ token ++ [1, 1]) := by
  unfold oauthPayload
  exact Base64.decode_encode _

open Client in
/-- **the credentials go out once, by the one mechanism selected**: `__authenticate` writes nothing when no SASL
    capability is known or no mechanism is selected, and otherwise exactly the lines of the selected mechanism's
    exchange, on the current channel — whatever the server answers (a refusal is not followed by a second attempt) -/
theorem authenticate_writes_one_mechanism_once (c : Client) (login password authz : Bytes) (authmech : Option Bytes)
    (hc : c.connected = true) :
    (authenticate c login password authz authmech).2.writes =
      c.writes ++ (match capGet c (sb "SASL") with
        | none => []
        | some v =>
          match selectMech authmech (splitWs (v.getD [])) with
          | none => []
          | some m => (authLines m login password authz).map (fun b => (c.tls, b))) :=
  authenticate_writes c login password authz authmech hc

open Client in
/-- … and those lines hold exactly one AUTHENTICATE command (LOGIN's two further lines are quoted strings) -/
theorem one_authenticate_command_per_exchange (mech login password authz : Bytes) :
    ((authLines mech login password authz).filter isAuthCmd).length = 1 := by
  unfold authLines
  split
  · simp [isAuthCmd_commandBytes]
  · split
    · simp [isAuthCmd_commandBytes, isAuthCmd_quoted]
    · split
      · simp [isAuthCmd_commandBytes]
      · simp [isAuthCmd_commandBytes]

end C16
