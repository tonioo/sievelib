import SieveModel.Generated.LexRules
import SieveModel.Lemmas.Scan
import SieveModel.Lemmas.Gating
import SieveModel.Lemmas.NoCrash
import SieveModel.Generated.Tables
import SieveModel.Lemmas.Typed
import SieveModel.Lemmas.Count
import SieveModel.Lemmas.Regenerated
import SieveModel.Lemmas.LiveTable
/-!
# C20 — registered custom commands

The interpreter theorems of C03 / C07 are *generic in the definition list*; this file instantiates
them as statements about an arbitrary registered definition and adds the registry lemmas:
`add_commands` makes exactly the registered name resolvable and leaves every other name alone.
Per-definition table conditions survive registration (`register_forall`), so the theorems proved for every table that
meets them hold with custom commands registered: every input gets a verdict (`custom_commands_keep_the_verdict`), no
command or test of an accepted script is dropped or duplicated (`custom_commands_keep_the_node_count`), and every argument
of an accepted tree is a token of the script in a slot that admits its kind and value (`custom_commands_are_typed`).
-/
namespace C20

/-- `globals()[name] = cls`: the registered definition answers for its own key, every other key is as before -/
theorem findKey_register (T : Table) (d : CmdDef) (k : Bytes) :
    (T.register d).findKey k = if d.key == k then some d else T.findKey k :=
  List.find?_upsert CmdDef.key T d k

/-- the identifier (in any letter case) of a registered definition resolves to it -/
theorem registered_name_resolves (T : Table) (d : CmdDef) (ident : Bytes)
    (h : B.capitalize (B.lower ident) = d.key) : (T.register d).lookup ident = some d := by
  unfold Table.lookup
  rw [findKey_register, h]; simp

/-- registering a definition does not change how any other name resolves -/
theorem other_names_unchanged (T : Table) (d : CmdDef) (ident : Bytes)
    (h : (B.capitalize (B.lower ident) == d.key) = false) :
    (T.register d).lookup ident = T.lookup ident := by
  unfold Table.lookup
  rw [findKey_register, BEq.comm, h]
  rfl

/-- arguments of a registered command are recorded under the names its definition gives -/
theorem custom_argument_recorded_under_defined_name (d : CmdDef) (loaded : List Bytes) (t : ArgType) (v : AVal)
    (st st' : CState) (pos : Nat) (k : String)
    (h : Args.scan d.name loaded true true t v st (d.args.drop pos) pos = .ok (st', .arg k)) :
    (∃ a ∈ d.args, a.name = k) ∧ assocGet st'.arguments k = some (v.toArg k) := by
  obtain ⟨a, ha, hk, _⟩ := Gating.scan_gated d.name loaded true t v st st' (d.args.drop pos) pos k h
  exact ⟨⟨a, List.mem_of_mem_drop ha, hk⟩, (Args.scan_records d.name loaded true t v st st' _ pos k h).1⟩

/-- a condition every definition meets survives registration of a definition that meets it -/
theorem register_forall (P : CmdDef → Prop) (T : Table) (d : CmdDef) (hT : ∀ x ∈ T, P x) (hd : P d) :
    ∀ x ∈ T.register d, P x :=
  fun x hx => (List.mem_upsert CmdDef.key hx).elim (hT x) (· ▸ hd)

theorem registerAll_forall (P : CmdDef → Prop) (ds : List CmdDef) (hds : ∀ d ∈ ds, P d) :
    ∀ (T : Table), (∀ x ∈ T, P x) → ∀ x ∈ ds.foldl Table.register T, P x := by
  induction ds with
  | nil => intro T hT; exact hT
  | cons d rest ih =>
    intro T hT
    exact ih (fun d' hd' => hds d' (List.mem_cons_of_mem _ hd')) (T.register d)
      (register_forall P T d hT (hds d List.mem_cons_self))

/-- **custom commands cannot make the parser raise or hang**: whatever definitions satisfying `cmdSafe` are
    registered on top of the library's own table, every input still gets a verdict -/
theorem custom_commands_keep_the_verdict (ds : List CmdDef) (hds : ∀ d ∈ ds, Safe.cmdSafe d = true) (text : Bytes) :
    Safe.Verdict (Machine.parse (ds.foldl Table.register Generated.builtinTable) text) :=
  Safe.parse_verdict _ (registerAll_forall (fun d => Safe.cmdSafe d = true) ds hds _ Live.tableSafe) text {}

theorem custom_commands_keep_the_node_count (ds : List CmdDef) (hds : ∀ d ∈ ds, Safe.cmdSafe d = true) (text : Bytes)
    (prev : PState) (r : List Node)
    (h : Machine.parse (ds.foldl Table.register Generated.builtinTable) text prev = .accept r) :
    ∃ lr, Lex.lex text = some lr ∧ Count.cntNs r = Count.idents lr.toks :=
  Count.accepted_node_count
    (registerAll_forall (fun d => Safe.cmdSafe d = true) ds hds Generated.builtinTable Live.tableSafe) text prev r h

theorem custom_commands_are_typed (ds : List CmdDef) (hds : ∀ d ∈ ds, Typed.reassignOK d = true) (text : Bytes)
    (prev : PState) (r : List Node)
    (h : Machine.parse (ds.foldl Table.register Generated.builtinTable) text prev = .accept r) :
    ∃ lr, Lex.lex text = some lr ∧
      ∀ n ∈ r, Typed.NodeT (fun tok => tok ∈ lr.toks) (ds.foldl Table.register Generated.builtinTable) n :=
  Typed.accepted_tree_typed
    (registerAll_forall (fun d => Typed.reassignOK d = true) ds hds Generated.builtinTable Live.tableT) text prev r h

theorem lexer_is_the_modelled_one :
    Generated.lexRuleNames = TokKind.all.map TokKind.name ∧ Generated.lexRulePatterns = TokKind.patterns ∧
      Generated.parserPatterns = TokKind.auxPatterns := Generated.lexer_is_the_modelled_one

end C20
