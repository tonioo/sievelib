import SieveModel.Lemmas.ClientRead
import SieveModel.Generated.MsConsts
import SieveModel.Props.C09
import SieveModel.Lemmas.Listing
import SieveModel.Lemmas.Session
import SieveModel.Lemmas.Regenerated
/-! # C15 — session-level consequences of T-READ (theorems follow) -/
namespace C15
open Client Reader

/-- requests and replies cannot get out of step because of segmentation: any two deliveries of
    the same bytes leave the same pending bytes after every exchange -/
theorem exchanges_stay_in_step (a b : Client) (h : SameC a b) (name : Bytes) (args : List WArg)
    (extra : List Bytes) (nbl : Option Nat) :
    SameC (sendCommand a name args extra nbl).2 (sendCommand b name args extra nbl).2 :=
  (sendCommand_congr a b h name args extra nbl).2

/-- **replies are consumed one at a time**: with two status replies pending (say the answers to two
    pipelined or consecutive commands), the first read returns the first status and the second read the
    second — the reply of one command is never taken for the reply of the next, however the bytes arrive -/
theorem consecutive_replies_are_read_in_order (nbl : Option Nat) (st : RState) (rest : Bytes)
    (hp : pending st = sb "NO" ++ 13 :: 10 :: (sb "OK" ++ 13 :: 10 :: rest)) :
    ∃ st1 st2, readResponse nbl st = .ok (⟨some .NO, none, []⟩, st1) ∧
      readResponse nbl st1 = .ok (⟨some .OK, none, []⟩, st2) ∧ pending st2 = rest := by
  obtain ⟨st1, h1, hp1, _, _⟩ := C09.no_reply_is_read nbl st ⟨none, none⟩ ⟨nofun, nofun⟩ _ hp
  obtain ⟨st2, h2, hp2, _, _⟩ := C09.ok_reply_is_read nbl st1 ⟨none, none⟩ ⟨nofun, nofun⟩ rest hp1
  exact ⟨st1, st2, h1, h2, hp2⟩

/-- the error text of an earlier `NO` does not survive a later bare `NO` (no stale `errmsg` / `errcode`) -/
theorem later_reply_alone_decides_error_fields (nbl : Option Nat) (st : RState) (code text rest : Bytes)
    (hne : code ≠ []) (hc : ∀ c ∈ code, isAtomByte c = true) (htext : ReplyLine.NoLF text)
    (hp : pending st = 78 :: 79 :: 32 :: (40 :: (code ++ 41 :: 32 :: (34 :: (escapeQ text ++ [34])))) ++ 13 :: 10 ::
            (sb "NO" ++ 13 :: 10 :: rest)) :
    ∃ st1 st2 r1 r2, readResponse nbl st = .ok (r1, st1) ∧ st1.errcode = code ∧ st1.errmsg = text ∧
      readResponse nbl st1 = .ok (r2, st2) ∧ st2.errcode = [] ∧ st2.errmsg = [] ∧ pending st2 = rest := by
  obtain ⟨st1, h1, hp1, hc1, hm1⟩ := C09.no_reply_is_read nbl st ⟨some code, some (.quoted text)⟩
    ⟨fun _ h => by cases h; exact ⟨hne, hc⟩, fun _ h => by cases h; exact htext⟩ _
    (by simpa [C09.NoReply.wire, C09.NoReply.tail, C09.NoReply.after] using hp)
  obtain ⟨st2, h2, hp2, hc2, hm2⟩ := C09.no_reply_is_read nbl st1 ⟨none, none⟩ ⟨nofun, nofun⟩ rest hp1
  exact ⟨st1, st2, _, _, h1, hc1, hm1, h2, hc2, hm2, hp2⟩

/-- what a server holds: named scripts in listing order, at most one of them active -/
structure Store where
  scripts : List (Bytes × Bytes)
  active : Option Bytes

def Store.names (s : Store) : List Bytes := s.scripts.map (·.1)
def Store.entries (s : Store) : List Listing.Entry := s.scripts.map fun p => ⟨p.1, s.active == some p.1⟩

theorem Store.mem_entries {s : Store} {e : Listing.Entry} (he : e ∈ s.entries) :
    e.name ∈ s.names ∧ e.active = (s.active == some e.name) := by
  obtain ⟨p, hp, rfl⟩ := List.mem_map.1 he
  exact ⟨List.mem_map.2 ⟨p, hp, rfl⟩, rfl⟩

open Listing in
theorem Store.inactive_entries (s : Store) : inactive s.entries = s.names.filter (fun n => !(s.active == some n)) := by
  simp only [inactive, Store.entries, Store.names, List.filter_map, List.map_map]
  rfl

open Listing in
theorem Store.activeOf_entries (s : Store) (hact : ∀ a, s.active = some a → a ∈ s.names) :
    activeOf s.entries none = s.active := by
  -- an entry is flagged exactly when it carries the active name, so `activeOf_flagged` applies with that name
  have flagged : ∀ e ∈ s.entries, e.active = true → e.name = s.active.getD [] := fun e he hf => by
    rw [(mem_entries he).2] at hf
    rw [eq_of_beq hf]
    rfl
  rw [activeOf_flagged s.entries _ none flagged]
  cases hsa : s.active with
  | none => rw [if_neg (by simp [Store.entries, hsa])]
  | some a =>
    obtain ⟨p, hp1, hp2⟩ := List.mem_map.1 (hact a hsa)
    have : s.entries.any (·.active) = true :=
      List.any_eq_true.2 ⟨_, List.mem_map.2 ⟨p, hp1, rfl⟩, by simp [hsa, hp2]⟩
    rw [if_pos this]
    rfl

open Listing in
/-- **what the client reports equals the server's state**: for a store whose active script (if any) is one
    of its scripts, with names a server may send as quoted strings, `listscripts` reports exactly that
    active script and exactly the other names in the server's order — and the exchange leaves exactly the
    bytes that follow the reply pending, so the next call reads its own reply -/
theorem listing_view_equals_server_state (c : Client) (s : Store) (rest : Bytes)
    (ha : c.authenticated = true) (hc : c.connected = true)
    (hact : ∀ a, s.active = some a → a ∈ s.names)
    (hb : ∀ n ∈ s.names, NoBreak n) (hv : ∀ n ∈ s.names, Utf8.valid n = true)
    (hp : pending (afterWrites c (sb "LISTSCRIPTS") [] []).r = wire s.entries ++ (sb "OK" ++ 13 :: 10 :: rest)) :
    (listscripts c).1 = .ok (some (s.active, s.names.filter (fun n => !(s.active == some n)))) ∧
      pending (listscripts c).2.r = rest := by
  obtain ⟨h1, h2⟩ := listscripts_returns_the_listing c s.entries rest ha hc (fun e he => hb _ (Store.mem_entries he).1)
    (fun e he => hv _ (Store.mem_entries he).1) hp
  rw [s.activeOf_entries hact, s.inactive_entries] at h1
  exact ⟨h1, h2⟩

/-- non-vacuity: a store with three scripts, the second one active -/
example : (⟨[(sb "a", sb "keep;"), (sb "OK", sb "stop;"), (sb "{5}", [])], some (sb "OK")⟩ : Store).entries.map (·.active) = [false, true, false] := by
  decide

/-- **no history of operations gets out of step because of how the bytes arrive**: for every session (any list of
    public operations) the results, in order, are the same for any two deliveries of the same server bytes -/
theorem sessions_stay_in_step (ops : List Op) (a b : Client) (h : SameC a b) : (runOps a ops).1 = (runOps b ops).1 :=
  (runOps_congr ops a b h).1

/-- a status reply with its status: `true` = OK, `false` = NO -/
abbrev StatusReply := Bool × C09.NoReply

def StatusReply.wire (sr : StatusReply) : Bytes := if sr.1 then sr.2.okWire else sr.2.wire
def StatusReply.status (sr : StatusReply) : Reader.Status := if sr.1 then .OK else .NO

theorem StatusReply.read (nbl : Option Nat) (sr : StatusReply) (hw : sr.2.WF) (st : RState) (rest : Bytes)
    (hp : pending st = sr.wire ++ rest) :
    ∃ st1 d, readResponse nbl st = .ok (⟨some sr.status, d, []⟩, st1) ∧ pending st1 = rest := by
  obtain ⟨b, r⟩ := sr
  cases b with
  | true =>
    obtain ⟨st1, d, h1, h2, _⟩ := C09.every_ok_reply_is_read nbl st r hw _ hp
    exact ⟨st1, d, h1, h2⟩
  | false =>
    obtain ⟨st1, d, h1, h2, _⟩ := C09.every_no_reply_is_decoded nbl st r hw _ hp
    exact ⟨st1, d, h1, h2⟩

def readAll (nbl : Option Nat) : Nat → RState → Except RErr (List (Option Reader.Status) × RState)
  | 0, st => .ok ([], st)
  | n + 1, st =>
    match Reader.readResponse nbl st with
    | .error e => .error e
    | .ok (resp, st1) =>
      match readAll nbl n st1 with
      | .error e => .error e
      | .ok (l, st2) => .ok (resp.code :: l, st2)

/-- **replies are consumed one at a time, whatever their number and shape**: with any list of OK / NO replies pending —
    with or without response code and text, texts quoted or literal — that many reads return their statuses in order, each
    read consuming exactly its own reply (a literal text and its CRLF included), and exactly what follows the last reply
    stays pending.  No reply is ever taken for the answer to another command, however the bytes arrive -/
theorem replies_are_read_one_at_a_time (nbl : Option Nat) (replies : List StatusReply) (hw : ∀ sr ∈ replies, sr.2.WF)
    (st : RState) (rest : Bytes)
    (hp : pending st = (replies.flatMap StatusReply.wire) ++ rest) :
    ∃ st', readAll nbl replies.length st = .ok (replies.map (fun sr => some sr.status), st') ∧ pending st' = rest := by
  induction replies generalizing st with
  | nil => exact ⟨st, rfl, by simpa using hp⟩
  | cons sr rest' ih =>
    rw [List.flatMap_cons, List.append_assoc] at hp
    obtain ⟨st1, d, h1, hp1⟩ := StatusReply.read nbl sr (hw sr List.mem_cons_self) st _ hp
    obtain ⟨st2, h2, hp2⟩ := ih (fun x hx => hw x (List.mem_cons_of_mem _ hx)) st1 hp1
    exact ⟨st2, by simp only [List.length_cons, readAll, h1, h2, List.map_cons], hp2⟩

/-- the capabilities the client keeps (regenerated from `KNOWN_CAPABILITIES`) are the modelled ones, in that order -/
theorem known_capabilities_are_the_modelled_ones : Generated.knownCapabilities.map sb = Client.knownCaps := rfl

theorem client_patterns_are_the_modelled_ones : Generated.clientPatterns = Client.patterns :=
  Generated.client_patterns_are_the_modelled_ones

end C15
