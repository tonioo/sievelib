import SieveModel.Spec.Vocabulary
import SieveModel.Spec.FrozenTable
import SieveModel.Model.Machine
import SieveModel.Model.Show
import SieveModel.Generated.Tables
import SieveModel.Generated.LexRules
import SieveModel.Lemmas.Layout
import SieveModel.Lemmas.Brackets
import SieveModel.Lemmas.Roles
import SieveModel.Lemmas.Typed
import SieveModel.Lemmas.Regenerated
import SieveModel.Lemmas.LiveTable
import SieveModel.Lemmas.Bytes
/-!
# C01 — the parser accepts exactly the valid scripts

The specification of the supported language is the independent recogniser `Spec.WF`; the equivalence
theorem between it and the parser machine is not proved (the agreement is established on every input of
the parse suite).  Proved here, for every table and every input:

* `lexer_rules_are_the_modelled_ones` — the token rules of the code are the modelled ones (regenerated);
* **necessary conditions of acceptance** derived from the machine alone:
  `accepted_scripts_have_balanced_brackets` — the bracket tokens `{ } ( ) [ ]` of an accepted script
  are balanced and properly nested (each closer matches the innermost opener; the parser's bracket
  stack follows the token stream exactly: `token_moves_the_bracket_stack_by_its_nesting_step`);
  `accepted_scripts_end_outside_any_command` — at acceptance no command is pending and nothing is
  expected;
  `accepted_scripts_have_commands_and_tests_in_their_roles` — in the tree of an accepted script every
  name resolves in the table, every top-level command and every child of a block is a control or an
  action, every node in test position is a test, blocks hang only under definitions that accept
  children, and a command that must follow certain commands comes directly after a sibling with one of
  those names (so: a test in command position, an action in test position, a block after an action and
  `elsif`/`else` not after `if`/`elsif` are all rejected, whatever surrounds them).  The relation is
  threaded through every parser step by `Lemmas/StackThread.lean`; the only condition on the table is
  that names identify definitions, discharged for the live table by the kernel;
  `accepted_scripts_have_correctly_typed_arguments` — in the tree of an accepted script every node's definition was
  looked up for an identifier token of the script; every scalar argument is the text of a string / multi-line / number /
  tag token of the script, recorded under a slot of that definition whose declared types admit that kind of token and whose
  value list (if any) contains it, letter case aside; every
  bracketed list sits in a slot that admits string lists and has no value list; every tag parameter sits under a slot whose `extra_arg` admits
  its kind and, where it lists values, lists it (so an ill-typed, illegal or invented argument, or a bad value for a tag's
  parameter, is never part of an accepted tree).  Threaded by `Lemmas/TokThread.lean`; table
  condition: the two slots `reassign_arguments` moves a value between have the same types (kernel-checked, live table).
-/
namespace C01

theorem lexer_rules_are_the_modelled_ones :
    Generated.lexRuleNames = TokKind.all.map TokKind.name := Generated.lexer_is_the_modelled_one.1

theorem lexer_patterns_are_the_modelled_ones : Generated.lexRulePatterns = TokKind.patterns :=
  Generated.lexer_is_the_modelled_one.2.1

theorem token_moves_the_bracket_stack_by_its_nesting_step (T : Table) (s s' : PState) (tok : Tok)
    (h : Machine.deliver T s tok = .ok s') : Brackets.dstep s.brackets tok.kind = some s'.brackets :=
  Brackets.deliver_br T s tok s' h

theorem accepted_scripts_have_balanced_brackets (T : Table) (text : Bytes) (prev : PState) (r : List Node)
    (h : Machine.parse T text prev = .accept r) :
    ∃ lr, Lex.lex text = some lr ∧ Brackets.Balanced (lr.toks.map (·.kind)) := by
  obtain ⟨lr, s, m, hl, _, hf, hx, _⟩ := Machine.parse_accept_iff.mp h
  exact ⟨lr, hl, (Brackets.feed_br hf).trans (congrArg some (Machine.endExpectation_none.mp hx).1)⟩

theorem accepted_scripts_end_outside_any_command (s : PState) (e n : Nat) (r : List Node)
    (h : Machine.finish s e n = .accept r) : s.stack = [] ∧ s.brackets = [] ∧ s.expected = none ∧ r = s.result := by
  revert h
  fun_cases Machine.finish s e n with
  | case1 => nofun
  | case2 => nofun
  | case3 hx hs =>
    intro h
    obtain ⟨hb, he⟩ := Machine.endExpectation_none.mp hx
    exact ⟨hs, hb, he, (Machine.Outcome.accept.inj h).symm⟩

theorem live_table_names_identify_definitions : Roles.TableN Generated.builtinTable := Live.tableN

/-- **roles and positions**: the tree of an accepted script has controls/actions in command position,
    tests in test position, blocks only under block owners, and `must_follow` respected by every sibling list -/
theorem accepted_scripts_have_commands_and_tests_in_their_roles (T : Table) (hT : Roles.TableN T) (text : Bytes)
    (prev : PState) (r : List Node) (h : Machine.parse T text prev = .accept r) :
    Roles.SibOK T r ∧ ∀ n ∈ r, Roles.isCmd T n ∧ Roles.NodeR T n :=
  Roles.accepted_tree_roles hT text prev r h

theorem accepted_scripts_have_commands_and_tests_in_their_roles_live (text : Bytes) (prev : PState) (r : List Node)
    (h : Machine.parse Generated.builtinTable text prev = .accept r) :
    Roles.SibOK Generated.builtinTable r ∧ ∀ n ∈ r, Roles.isCmd Generated.builtinTable n ∧ Roles.NodeR Generated.builtinTable n :=
  Roles.accepted_tree_roles live_table_names_identify_definitions text prev r h

/-- what `NodeR` says about one node, spelled out -/
theorem role_facts_of_a_node (T : Table) (name : Bytes) (args extra : List Arg) (children : List Node) (c : List Bytes)
    (h : Roles.NodeR T (.mk name args extra children c)) :
    ∃ d, T.byName name = some d ∧
      (children ≠ [] → d.acceptChildren = true) ∧
      (∀ ch ∈ children, Roles.isCmd T ch ∧ Roles.NodeR T ch) ∧
      Roles.SibOK T children ∧
      (∀ k n, Arg.test k n ∈ args ++ extra → Roles.isTest T n ∧ Roles.NodeR T n) ∧
      (∀ k l, Arg.tests k l ∈ args ++ extra → ∀ n ∈ l, Roles.isTest T n ∧ Roles.NodeR T n) := by
  cases h with
  | mk _ _ _ _ _ d hd hkidsK hkids hblock hsib hargsK hargs harglK hargl =>
    exact ⟨d, hd, hblock, fun ch hc => ⟨hkidsK ch hc, hkids ch hc⟩, hsib,
      fun k n hm => ⟨hargsK k n hm, hargs k n hm⟩, fun k l hm n hn => ⟨harglK k l hm n hn, hargl k l hm n hn⟩⟩

theorem roles_are_exclusive (T : Table) (n : Node) (h1 : Roles.isCmd T n) (h2 : Roles.isTest T n) : False := by
  obtain ⟨d, hd, hk⟩ := h1
  obtain ⟨d', hd', hk'⟩ := h2
  rw [hd] at hd'
  cases hd'
  exact hk hk'

/-- in the live language `else` and `elsif` come directly after an `if` or an `elsif`, in every sibling list
    (top level or block) of every accepted script -/
theorem else_and_elsif_come_directly_after_if_or_elsif (l pre post : List Node) (n : Node)
    (h : Roles.SibOK Generated.builtinTable l) (hl : l = pre ++ n :: post)
    (hn : n.name = sb "else" ∨ n.name = sb "elsif") :
    ∃ p, Machine.lastName pre = some p ∧ (p = sb "if" ∨ p = sb "elsif") := by
  have key : ∀ nm ∈ [sb "else", sb "elsif"],
      (Generated.builtinTable.byName nm).map (·.mustFollow) = some (some [sb "if", sb "elsif"]) := by decide +kernel
  obtain ⟨d, hd, hm⟩ := Option.map_eq_some_iff.mp (key n.name (by simpa using hn))
  obtain ⟨p, hp, hmem⟩ := Machine.followOk_some hm (h pre n post hl d hd)
  exact ⟨p, hp, by simpa using hmem⟩

/-- non-vacuity: a script with `if … else …` is accepted by the model on the live table -/
example : Show.outcome (sb "if true { keep; } else { stop; }")
      (Machine.parse Generated.builtinTable (sb "if true { keep; } else { stop; }"))
    = "accept (6966 A[test=t:(74727565 A[] E[] C[] H[]);] E[] C[(6b656570 A[] E[] C[] H[])] H[])(656c7365 A[] E[] C[(73746f70 A[] E[] C[] H[])] H[])" := by
  rw [sb_lit]; decide +kernel

theorem live_table_reassign_ok : Typed.TableT Generated.builtinTable := Live.tableT

theorem accepted_scripts_have_correctly_typed_arguments (T : Table) (hT : Typed.TableT T) (text : Bytes) (prev : PState)
    (r : List Node) (h : Machine.parse T text prev = .accept r) :
    ∃ lr, Lex.lex text = some lr ∧ ∀ n ∈ r, Typed.NodeT (fun tok => tok ∈ lr.toks) T n :=
  Typed.accepted_tree_typed hT text prev r h

theorem accepted_scripts_have_correctly_typed_arguments_live (text : Bytes) (prev : PState) (r : List Node)
    (h : Machine.parse Generated.builtinTable text prev = .accept r) :
    ∃ lr, Lex.lex text = some lr ∧ ∀ n ∈ r, Typed.NodeT (fun tok => tok ∈ lr.toks) Generated.builtinTable n :=
  Typed.accepted_tree_typed live_table_reassign_ok text prev r h

/-- what `NodeT` says about one scalar argument, spelled out: its slot, its token, the admitted kind and the admitted value -/
theorem typed_argument_facts (TokP : Tok → Prop) (T : Table) (name : Bytes) (args extra : List Arg) (children : List Node)
    (c : List Bytes) (k : String) (raw : Bytes) (h : Typed.NodeT TokP T (.mk name args extra children c))
    (ha : Arg.str k raw ∈ args) :
    ∃ d, TokThread.Named TokP T d ∧ d.name = name ∧ ∃ slot ∈ d.args, slot.name = k ∧ Typed.valueIn slot raw ∧
      ∃ tok t, TokP tok ∧ tok.text = raw ∧ Args.validType t slot.types = true ∧
        (((tok.kind = .string ∨ tok.kind = .multiline) ∧ t = .string) ∨ (tok.kind = .number ∧ t = .number) ∨
          (tok.kind = .tag ∧ t = .tag)) := by
  cases h with
  | mk _ _ _ _ _ d hnamed hname hargs hextra hkids htest htests =>
    obtain ⟨slot, hs, hsn, hval, t, ⟨tok, htok, htext, hk⟩, hvt⟩ := hargs _ ha
    exact ⟨d, hnamed, hname, slot, hs, hsn, hval, tok, t, htok, htext, hvt, hk⟩

/-- non-vacuity of the nesting discipline: `( [ ] )` is balanced, `( [ ) ]` is not -/
example : Brackets.Balanced [.left_parenthesis, .left_bracket, .right_bracket, .right_parenthesis] := by unfold Brackets.Balanced; decide
example : ¬ Brackets.Balanced [.left_parenthesis, .left_bracket, .right_parenthesis, .right_bracket] := by unfold Brackets.Balanced; decide

/-- **the table defines exactly the supported language**: every definition of the live table is a word of
    the frozen vocabulary (hand-written from the RFCs, not derived from the code) in its role, and every
    word has a definition — a definition added by accident (a helper class that happens to end in
    `Command`) or lost breaks this obligation -/
theorem live_table_speaks_exactly_the_supported_vocabulary :
    Spec.SpeaksOnly Generated.builtinTable = true ∧ Spec.SpeaksAll Generated.builtinTable = true := by
  decide +kernel

theorem resolved_names_are_vocabulary_words (T : Table) (hT : Spec.SpeaksOnly T = true) (name : Bytes) (d : CmdDef)
    (h : T.byName name = some d) : (name, d.kind) ∈ Spec.vocabulary := by
  unfold Table.byName at h
  have hn := List.find?_some h
  obtain rfl := eq_of_beq hn
  exact of_decide_eq_true (List.all_eq_true.1 hT d (List.mem_of_find?_eq_some h))

theorem command_names_are_vocabulary_words (T : Table) (hT : Spec.SpeaksOnly T = true) (n : Node) (h : Roles.isCmd T n) :
    ∃ k, (n.name, k) ∈ Spec.vocabulary ∧ k ≠ .test :=
  let ⟨d, hd, hk⟩ := h
  ⟨d.kind, resolved_names_are_vocabulary_words T hT _ d hd, hk⟩

theorem test_names_are_vocabulary_words (T : Table) (hT : Spec.SpeaksOnly T = true) (n : Node) (h : Roles.isTest T n) :
    (n.name, Kind.test) ∈ Spec.vocabulary :=
  let ⟨d, hd, hk⟩ := h
  hk ▸ resolved_names_are_vocabulary_words T hT _ d hd

/-- **unknown commands are rejected**: every top-level command of an accepted script — and, through
    `role_facts_of_a_node`, every nested command and test — bears a name of the frozen vocabulary -/
theorem accepted_scripts_use_only_the_supported_vocabulary (text : Bytes) (prev : PState) (r : List Node)
    (h : Machine.parse Generated.builtinTable text prev = .accept r) :
    ∀ n ∈ r, ∃ k, (n.name, k) ∈ Spec.vocabulary ∧ k ≠ .test :=
  fun n hn => command_names_are_vocabulary_words _ live_table_speaks_exactly_the_supported_vocabulary.1 n
    ((accepted_scripts_have_commands_and_tests_in_their_roles_live text prev r h).2 n hn).1

theorem nested_nodes_use_only_the_supported_vocabulary (name : Bytes) (args extra : List Arg) (children : List Node)
    (c : List Bytes) (h : Roles.NodeR Generated.builtinTable (.mk name args extra children c)) :
    (∀ ch ∈ children, ∃ k, (ch.name, k) ∈ Spec.vocabulary ∧ k ≠ .test) ∧
    (∀ k n, Arg.test k n ∈ args ++ extra → (n.name, Kind.test) ∈ Spec.vocabulary) ∧
    (∀ k l, Arg.tests k l ∈ args ++ extra → ∀ n ∈ l, (n.name, Kind.test) ∈ Spec.vocabulary) := by
  obtain ⟨_, _, _, hkids, _, hargs, hargl⟩ := role_facts_of_a_node _ _ _ _ _ _ h
  have hv := live_table_speaks_exactly_the_supported_vocabulary.1
  exact ⟨fun ch hc => command_names_are_vocabulary_words _ hv ch (hkids ch hc).1,
    fun k n hm => test_names_are_vocabulary_words _ hv n (hargs k n hm).1,
    fun k l hm n hn => test_names_are_vocabulary_words _ hv n (hargl k l hm n hn).1⟩

/-- **the tags each command admits are exactly the supported ones** (frozen, hand-written): a tag that wandered from
    one command's definition into another's (a shared table entry, a copy-and-paste) breaks this obligation -/
theorem live_table_admits_exactly_the_supported_tags : Spec.TagsExactly Generated.builtinTable = true := by
  decide +kernel

/-- a tag admitted by the value list of a tag slot of a definition is one of the tags the frozen vocabulary gives that
    command (with `accepted_scripts_have_correctly_typed_arguments`: every tag recorded in an accepted tree sits in such a slot) -/
theorem listed_tags_are_supported_tags (T : Table) (hT : Spec.TagsExactly T = true) (d : CmdDef) (hd : d ∈ T)
    (slot : ArgDef) (hs : slot ∈ d.args) (htag : ArgType.tag ∈ slot.types) (t : Bytes)
    (ht : t ∈ (slot.values.getD []) ++ slot.extValues.map (·.1)) : t ∈ Spec.frozenTags d.name := by
  have hmem : t ∈ Spec.tagsOf d := List.mem_flatMap.2 ⟨slot, hs, by rwa [if_pos (decide_eq_true htag)]⟩
  have h0 := List.all_eq_true.1 hT d hd
  rw [Bool.and_eq_true] at h0
  exact of_decide_eq_true (List.all_eq_true.1 h0.1 t hmem)

/-- every tag slot of the table restricts its tags to a list (none takes "any tag") -/
def TagSlotsListed (T : Table) : Bool :=
  T.all fun d => d.args.all fun a => !decide (ArgType.tag ∈ a.types) || !(a.values.isNone && a.extValues.isEmpty)

theorem live_table_tag_slots_listed : TagSlotsListed Generated.builtinTable = true := by decide +kernel

/-- **every tag in an accepted tree is a tag of its command** (frozen vocabulary): a tag token recorded as an argument of a
    node of an accepted script is, lower-cased, one of the tags the hand-written vocabulary gives that node's command -/
theorem accepted_tags_are_supported_tags (TokP : Tok → Prop) (name : Bytes) (args extra : List Arg) (children : List Node)
    (c : List Bytes) (k : String) (raw : Bytes)
    (h : Typed.NodeT TokP Generated.builtinTable (.mk name args extra children c))
    (ha : Arg.str k raw ∈ args)
    (htagtok : ∀ tok : Tok, TokP tok → tok.text = raw → tok.kind = .tag) :
    B.lower raw ∈ Spec.frozenTags name := by
  obtain ⟨d, hnamed, hname, slot, hs, _, hval, tok, t, htok, htext, hvt, hk⟩ :=
    typed_argument_facts TokP Generated.builtinTable name args extra children c k raw h ha
  rw [htagtok tok htok htext] at hk
  obtain rfl : t = .tag := by simpa using hk
  have htag : ArgType.tag ∈ slot.types := by simpa [Args.validType] using hvt
  have hd : d ∈ Generated.builtinTable := Typed.named_mem hnamed
  have hlisted := List.all_eq_true.1 (List.all_eq_true.1 live_table_tag_slots_listed d hd) slot hs
  rw [decide_eq_true htag, Bool.not_true, Bool.false_or, Bool.not_eq_true'] at hlisted
  rw [← hname]
  exact listed_tags_are_supported_tags _ live_table_admits_exactly_the_supported_tags d hd slot hs htag _
    (Typed.valueIn_listed hval hlisted)

/-- **each tag takes exactly the parameter the frozen vocabulary gives it** — the kinds admitted (string / number / string list)
    and, where the RFCs close it, the value set (comparators, relational operators); a value added to or lost from such a list,
    a parameter that wandered to another tag, a type widened or narrowed breaks this obligation -/
theorem live_table_gives_tags_their_supported_parameters : Spec.ParamsExactly Generated.builtinTable = true := by
  decide +kernel

/-- **the command table is the supported language's**: the table regenerated from the code on every run equals, definition by
    definition and field by field, the frozen table the independent recogniser judges scripts with (`spec/command_table.json`).
    Any edit of a definition — a slot's types, a `required` flag, the order of slots, `must_follow`, `accept_children` — breaks
    this obligation; the search then pits the parser against the recogniser, which still speaks the frozen language -/
theorem live_table_is_the_supported_table : Generated.builtinTable = Spec.frozenTable := rfl

theorem lexer_is_the_modelled_one :
    Generated.lexRuleNames = TokKind.all.map TokKind.name ∧ Generated.lexRulePatterns = TokKind.patterns ∧
      Generated.parserPatterns = TokKind.auxPatterns := Generated.lexer_is_the_modelled_one

/-- **acceptance and the tree are functions of the token sequence**: two texts that lex to the same kinds and texts of tokens
    (white space, line breaks, positions differ) are accepted together, with the same tree — for every table -/
theorem same_tokens_same_verdict (T : Table) (t1 t2 : Bytes) (l1 l2 : Lex.Result) (h1 : Lex.lex t1 = some l1)
    (h2 : Lex.lex t2 = some l2) (he2 : l2.err = none) (hk : l1.toks.map Lex.kt = l2.toks.map Lex.kt) (prev1 prev2 : PState)
    (r : List Node) (h : Machine.parse T t1 prev1 = .accept r) : Machine.parse T t2 prev2 = .accept r :=
  Layout.same_tokens_same_tree T t1 t2 l1 l2 h1 h2 he2 hk prev1 prev2 r h

/-- **layout does not matter**: the tokens of an accepted script written with any other white space between them — every token
    still followed by a byte that cannot continue it (`Lex.SWeave`) — are accepted with the same tree -/
theorem accepted_whatever_the_layout (T : Table) (t1 t2 : Bytes) (l1 : Lex.Result) (h1 : Lex.lex t1 = some l1)
    (hw : Lex.SWeave (l1.toks.map Lex.kt) t2) (prev1 prev2 : PState) (r : List Node) (h : Machine.parse T t1 prev1 = .accept r) :
    Machine.parse T t2 prev2 = .accept r :=
  Layout.accepted_whatever_the_layout T t1 t2 l1 h1 hw prev1 prev2 r h

/-- a concrete layout normal form: the tokens of an accepted script (comments included), one per line, are accepted with
    the same tree -/
theorem accepted_with_one_token_per_line (T : Table) (t1 : Bytes) (l1 : Lex.Result) (h1 : Lex.lex t1 = some l1)
    (prev1 prev2 : PState) (r : List Node) (h : Machine.parse T t1 prev1 = .accept r) :
    Machine.parse T (Layout.onePerLine l1.toks) prev2 = .accept r :=
  Layout.accepted_whatever_the_layout T t1 _ l1 h1 (Layout.sweave_onePerLine l1.toks (Lex.lex_genuine t1 l1 h1))
    prev1 prev2 r h

/-- non-vacuity: the same six tokens in two layouts -/
example : (Lex.lex (sb "if true{keep;}")).map (fun (l : Lex.Result) => l.toks.map Lex.kt) =
    (Lex.lex (sb "  if\ttrue\r\n{\n  keep ;\n}\n")).map (fun (l : Lex.Result) => l.toks.map Lex.kt) := by decide +kernel

end C01
