import SieveModel.Lemmas.FilterSet
/-!
# C12 — Filter-set editing operations behave like an ordered, uniquely named list

`Inv fs` = names are unique ∧ every filter's content is "its definition, wrapped in `if false`
exactly once iff its enabled flag is off".  All theorems hold for every history of operations, of
any length, over any names.
-/
namespace C12
open FS

/-- the seven editing operations (update / replace install a freshly built, unwrapped content) -/
inductive Op where
  | add (n : Bytes) (id : Nat)
  | update (old new : Bytes) (id : Nat)
  | replace (old : Bytes) (id : Nat) (new : Option Bytes)
  | remove (n : Bytes)
  | enable (n : Bytes)
  | disable (n : Bytes)
  | move (n : Bytes) (up : Bool)

def apply (fs : FS) : Op → FRes × FS
  | .add n id => addfilter fs n id
  | .update o n id => updatefilter fs o n id
  | .replace o id n => replacefilter fs o (.plain id) n
  | .remove n => removefilter fs n
  | .enable n => enablefilter fs n
  | .disable n => disablefilter fs n
  | .move n up => movefilter fs n up

def run (fs : FS) (ops : List Op) : FS := ops.foldl (fun s o => (apply s o).2) fs

theorem step_preserves_invariant (fs : FS) (op : Op) (h : FS.Inv fs) : FS.Inv (apply fs op).2 := by
  cases op with
  | add n id => exact addfilter_inv fs n id h
  | update o n id => exact install_inv fs o n id h
  | replace o id n => exact install_inv fs o (n.getD o) id h
  | remove n => exact removefilter_inv fs n h
  | enable n => exact enablefilter_inv fs n h
  | disable n => exact disablefilter_inv fs n h
  | move n up => exact movefilter_inv fs n up h

theorem run_preserves_invariant (ops : List Op) : ∀ fs, FS.Inv fs → FS.Inv (run fs ops) := by
  induction ops with
  | nil => exact fun _ h => h
  | cons o rest ih => exact fun fs h => ih _ (step_preserves_invariant fs o h)

theorem every_history_keeps_invariant (ops : List Op) : FS.Inv (run [] ops) :=
  run_preserves_invariant ops [] ⟨List.nodup_nil, fun _ h => (List.not_mem_nil h).elim⟩

theorem flags_agree (fs : FS) (h : FS.Inv fs) (f : Flt) (hf : f ∈ fs) :
    f.content.isDisabled = !f.enabled := by
  rcases (h.2 f hf).cases with ⟨he, hc⟩ | ⟨he, hc⟩ <;> rw [he, hc] <;> rfl

theorem is_filter_disabled_is_not_enabled (fs : FS) (h : FS.Inv fs) (n : Bytes) (f : Flt)
    (hf : findFirst fs n = some f) : isFilterDisabled fs n = !f.enabled := by
  unfold isFilterDisabled
  rw [hf]
  exact flags_agree fs h f (List.mem_of_find?_eq_some hf)

/-- `getfilter` returns the filter's own (unwrapped) content whether or not it is disabled -/
theorem getfilter_returns_own_content (fs : FS) (h : FS.Inv fs) (n : Bytes) (f : Flt)
    (hf : findFirst fs n = some f) : getfilter fs n = some (some (.plain f.content.core)) := by
  unfold getfilter
  rw [hf]
  simp only
  rcases (h.2 f (List.mem_of_find?_eq_some hf)).cases with ⟨he, hc⟩ | ⟨he, hc⟩ <;> rw [he, hc] <;> rfl

/-- a duplicate name is refused with FilterAlreadyExists and changes nothing -/
theorem duplicate_name_refused (fs : FS) (n : Bytes) (id : Nat) (h : filterExists fs n = true) :
    addfilter fs n id = (.exists_, fs) := by simp [addfilter, h]

/-- operations on an unknown name return False / None and change nothing -/
theorem unknown_name_changes_nothing (fs : FS) (n : Bytes) (h : findFirst fs n = none) :
    (∀ o id, updatefilter fs n o id = (.ret false, fs)) ∧ (∀ c o, replacefilter fs n c o = (.ret false, fs)) ∧
    removefilter fs n = (.ret false, fs) ∧ enablefilter fs n = (.ret false, fs) ∧
    disablefilter fs n = (.ret false, fs) ∧ (∀ up, movefilter fs n up = (.ret false, fs)) ∧
    getfilter fs n = some none := by
  have hex : filterExists fs n = false := by rw [filterExists_eq, h]; rfl
  refine ⟨?_, ?_, ?_, ?_, ?_, ?_, ?_⟩
  · intro o id; simp [updatefilter, install, h]
  · intro c o; simp [replacefilter, install, h]
  · simp [removefilter, hex]
  · simp [enablefilter, h]
  · simp [disablefilter, h]
  · intro up; simp [movefilter, h]
  · simp [getfilter, h]

/-- update / replace keep the number of filters and every filter's enabled status, in place -/
theorem update_keeps_position_and_status (fs : FS) (o n : Bytes) (c : Content) :
    ((install fs o n c).2.map (·.enabled)) = fs.map (·.enabled) := by
  fun_cases install fs o n c with
  | case1 | case2 => rfl
  | case3 f hf _ =>
    obtain ⟨pre, post, hs⟩ := first_split hf
    obtain rfl := hs.eq
    have hu := hs.update
    simp [hu]

theorem move_is_a_permutation (fs : FS) (n : Bytes) (up : Bool) : (movefilter fs n up).2.Perm fs :=
  movefilter_perm fs n up

/-- non-vacuity: disable twice then enable once leaves an enabled, unwrapped filter -/
example : (run [] [.add (sb "a") 1, .disable (sb "a"), .disable (sb "a"), .enable (sb "a")])
    = [⟨sb "a", .plain 1, true⟩] := by decide +kernel

end C12
