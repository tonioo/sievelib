import SieveModel.Lemmas.ClientRead
import SieveModel.Generated.MsConsts
import SieveModel.Lemmas.Session
import SieveModel.Lemmas.Regenerated
/-!
# C05 — ManageSieve replies are read identically however the bytes are segmented

`Net` = the bytes the server sends plus a schedule of per-`recv` caps (every `recv` may return
fewer bytes than asked for, down to one).  `Same a b` = two reader states with the same pending
bytes (`buffer ++ stream`), split differently between buffer and socket and with *unrelated*
schedules.  All theorems hold for every byte string, every split and every pair of schedules.
-/
namespace C05
open Reader Client

/-- a literal `{n}` is consumed as exactly the next `n` pending octets, in however many segments
    they arrive; fewer than `n` pending ⇒ `Error` -/
theorem literal_is_exactly_n_octets (n : Nat) (st : RState) :
    (n ≤ (pending st).length →
      ∃ st', readBlock n st = .ok ((pending st).take n, st') ∧ pending st' = (pending st).drop n ∧
        st'.errcode = st.errcode ∧ st'.errmsg = st.errmsg ∧ st'.net.later = st.net.later) ∧
    ((pending st).length < n → readBlock n st = .error .error) :=
  ⟨fun h => let ⟨st', he, k⟩ := (readBlock_spec n st).1 h; ⟨st', he, k.pending, k.errcode, k.errmsg, k.later⟩,
    (readBlock_spec n st).2⟩

/-- a whole reply (lines, literals, final status, `NO` text) is read identically from any two
    deliveries of the same bytes; what is left for the next operation is the same too -/
theorem reply_independent_of_segmentation (nbl : Option Nat) (buf₁ str₁ buf₂ str₂ : Bytes)
    (sched₁ sched₂ : List Nat) (later ec em : _) (h : buf₁ ++ str₁ = buf₂ ++ str₂) :
    RelRes (readResponse nbl ⟨buf₁, ⟨str₁, sched₁, later⟩, ec, em⟩)
           (readResponse nbl ⟨buf₂, ⟨str₂, sched₂, later⟩, ec, em⟩) :=
  readResponse_congr nbl _ _ ⟨h, rfl, rfl, rfl⟩

theorem reply_equals_unsegmented_delivery (nbl : Option Nat) (buf str : Bytes) (sched : List Nat)
    (later ec em : _) :
    RelRes (readResponse nbl ⟨buf, ⟨str, sched, later⟩, ec, em⟩)
           (readResponse nbl ⟨buf ++ str, ⟨[], [], later⟩, ec, em⟩) :=
  readResponse_congr nbl _ _ ⟨by simp [pending], rfl, rfl, rfl⟩

theorem exchange_independent_of_segmentation (a b : Client) (h : SameC a b) (name : Bytes)
    (args : List WArg) (extra : List Bytes) (nbl : Option Nat) :
    RelC (sendCommand a name args extra nbl) (sendCommand b name args extra nbl) :=
  sendCommand_congr a b h name args extra nbl

theorem havespace_independent (a b : Client) (h : SameC a b) (n : Bytes) (k : Nat) :
    RelC (havespace a n k) (havespace b n k) := exchange_rel SameC.respects h _ _

theorem putscript_independent (a b : Client) (h : SameC a b) (n c : Bytes) :
    RelC (putscript a n c) (putscript b n c) := exchange_rel SameC.respects h _ _

theorem deletescript_independent (a b : Client) (h : SameC a b) (n : Bytes) :
    RelC (deletescript a n) (deletescript b n) := exchange_rel SameC.respects h _ _

theorem setactive_independent (a b : Client) (h : SameC a b) (n : Bytes) :
    RelC (setactive a n) (setactive b n) := exchange_rel SameC.respects h _ _

theorem checkscript_independent (a b : Client) (h : SameC a b) (c : Bytes) :
    RelC (checkscript a c) (checkscript b c) := checkscript_rel SameC.respects h c

theorem listscripts_independent (a b : Client) (h : SameC a b) :
    RelC (listscripts a) (listscripts b) := listscripts_rel SameC.respects h

theorem getscript_independent (a b : Client) (h : SameC a b) (n : Bytes) :
    RelC (getscript a n) (getscript b n) := getscript_rel SameC.respects h n

/-- the multi-command emulated rename included: every intermediate reply is re-synchronised -/
theorem renamescript_independent (a b : Client) (h : SameC a b) (o n : Bytes) :
    RelC (renamescript a o n) (renamescript b o n) := renamescript_rel SameC.respects h o n

theorem capability_independent (a b : Client) (h : SameC a b) : RelC (capability a) (capability b) := capability_rel SameC.respects h
theorem logout_independent (a b : Client) (h : SameC a b) : RelC (logout a) (logout b) := logout_rel SameC.respects h

/-- a capability block (the greeting, or the block sent after a TLS handshake) -/
theorem capabilities_independent (a b : Client) (h : SameC a b) : RelC (getCapabilities a) (getCapabilities b) :=
  getCapabilities_congr a b h

/-- the whole SASL exchange, whichever mechanism is chosen (LOGIN's several steps included) -/
theorem authenticate_independent (a b : Client) (h : SameC a b) (login password authz : Bytes) (mech : Option Bytes) :
    RelC (authenticate a login password authz mech) (authenticate b login password authz mech) :=
  authenticate_congr a b h login password authz mech

/-- **`connect` without STARTTLS**: greeting, mechanism choice, AUTHENTICATE exchange and final state are the
    same for any two deliveries of the same server bytes.  With STARTTLS the statement is deliberately
    false — what reached the buffer before the handshake is discarded, what is still in the socket is
    not (the plaintext-injection guard, C10) — so it is not claimed there -/
theorem connect_without_tls_independent (c : Client) (env : ConnEnv) (n1 n2 : Net) (hs : n1.stream = n2.stream)
    (hl : n1.later = n2.later) (login password authz : Bytes) (mech : Option Bytes) :
    RelC (connect c env n1 login password authz false mech) (connect c env n2 login password authz false mech) :=
  connect_plain_congr c env n1 n2 hs hl login password authz mech

/-- **whole sessions**: for every list of public operations, two clients that differ only in how the pending bytes are
    split between buffer and socket and in their recv schedules give the same result for every operation, in order -/
theorem session_independent_of_segmentation (ops : List Op) (a b : Client) (h : SameC a b) :
    (runOps a ops).1 = (runOps b ops).1 ∧ SameC (runOps a ops).2 (runOps b ops).2 :=
  runOps_congr ops a b h

/-- … also when the session begins with `connect` (without STARTTLS) on two deliveries of the same server bytes -/
theorem connected_session_independent_of_segmentation (c : Client) (env : ConnEnv) (n1 n2 : Net) (hs : n1.stream = n2.stream)
    (hl : n1.later = n2.later) (login password authz : Bytes) (mech : Option Bytes) (ops : List Op) :
    (connect c env n1 login password authz false mech).1 = (connect c env n2 login password authz false mech).1 ∧
    (runOps (connect c env n1 login password authz false mech).2 ops).1 =
      (runOps (connect c env n2 login password authz false mech).2 ops).1 := by
  obtain ⟨hv, hc⟩ := connect_plain_congr c env n1 n2 hs hl login password authz mech
  exact ⟨hv, (runOps_congr ops _ _ hc).1⟩

/-- the constants of the reader regenerated from the code are the modelled ones: the line terminator and the size asked of
    every `recv` while looking for a line end -/
theorem reader_constants_are_the_modelled_ones :
    Generated.crlf = Reader.CRLF.map (·.toNat) ∧ Generated.readSize = Reader.readSize := by decide

/-- non-vacuity: a literal delivered one byte at a time is read whole -/
example : (readBlock 3 ⟨[], ⟨sb "abcOK", [1, 1, 1, 1], []⟩, [], []⟩).toOption.map (·.1) = some (sb "abc") := by
  decide

theorem client_patterns_are_the_modelled_ones : Generated.clientPatterns = Client.patterns :=
  Generated.client_patterns_are_the_modelled_ones

end C05
