import SieveModel.Generated.LexRules
import SieveModel.Model.Lexer
import SieveModel.Model.Machine
import SieveModel.Lemmas.Bytes
import SieveModel.Lemmas.Comments
import SieveModel.Lemmas.Readback
import SieveModel.Lemmas.Relex
import SieveModel.Lemmas.Regenerated
/-!
# C11 — A filter set survives being saved and loaded back

* `hash_comment_is_the_rest_of_the_line`: what is written behind a marker is exactly the comment token.
* `marker_comments_reach_the_next_top_level_command` (every table, every state, every token): a hash
  comment is added to the pending comments and nothing else changes; any other token either leaves
  pending comments and result alone or finishes exactly one top-level command, which is appended to the
  result carrying exactly the pending comments, after which the pending list is empty.  Hence the name
  and description markers the factory writes in front of a filter are delivered with that filter's
  command and with no other.
* `markers_give_back_name_and_description` / `name_marker_gives_back_the_name` (loader model `Readback.nameDescL`, the
  `for comment in f.hash_comments` loop of `from_parser_result`): for non-empty prefixes neither of which begins a line
  written with the other, and a name / description in which the prefixes do not occur, the two marker comments give
  back exactly the name and the description (`(pre + s).replace(pre, "") = s.replace(pre, "")` for every `s`);
  `text_without_the_first_prefix_byte_is_safe`: a text without the prefix's first byte (no `#`) contains no occurrence.
* `written_name_marker_comes_back`: the three steps composed — the line the renderer writes (`prefix + text + "\n"`) lexes
  as one hash comment of that length, the parser's `strip()` leaves it alone (text not ending in white space, as the
  property's quantifier says), and the loader returns the text; `written_markers_come_back`: the last two steps, for both
  markers together.
* set level (`load_is_specLoad`, `loaded_contents_are_the_commands_in_order`, `loaded_filter_depends_on_its_own_command_only`,
  `command_without_comments_loads_bare`): `from_parser_result` yields one filter per top-level command that is not a
  `require`, in the order of the script, each with that very command as content, enabled unless the command is an `if false`
  wrapper, and with name and description computed from that command's own comments (and its ordinal) alone — nothing is
  carried over from a neighbouring filter; `loaded_requirements_are_the_require_commands`: the requirement list is
  exactly what the `require` commands of the script name, added in order, and nothing else.
The loader and the renderer are tied to the code by the `factory-roundtrip` correspondence (build → render → parse → load
→ read back, real code against the composed Lean models); the rest of the construction and loading logic of `factory.py`
is decided by the render → parse → reload oracle.
-/
namespace C11

/-- a hash comment token runs to the end of its line and never beyond: the name / description
    written behind a marker is exactly what the parser hands to the loader -/
theorem hash_comment_is_the_rest_of_the_line (line rest : Bytes) (h : ∀ c ∈ line, c ≠ 10) :
    Lex.one (35 :: line ++ 10 :: rest) = some (.hash_comment, 1 + line.length) := by
  -- the span of non-LF bytes of `line ++ 10 :: rest` is `|line|`: all of `line` passes, the byte after it is the LF
  rw [← Lex.spanLen_all (· != 10) line (10 :: rest) (fun c hc => by simpa using h c hc) (fun c r e => by cases e; rfl)]
  exact (Lex.Rule.hash _).one

open Machine in
/-- comments written in front of a top-level command reach that command's node and no other -/
theorem marker_comments_reach_the_next_top_level_command (T : Table) (s s' : PState) (tok : Tok)
    (h : deliver T s tok = .ok s') :
    (tok.kind = .hash_comment ∧ s'.comments = s.comments ++ [stripWs tok.text] ∧ s'.result = s.result) ∨
    (tok.kind ≠ .hash_comment ∧
      ((s'.comments = s.comments ∧ s'.result = s.result) ∨
       (∃ n, s'.result = s.result ++ [n] ∧ Node.comments n = s.comments ∧ s'.comments = []))) :=
  Comments.deliver_comments T s tok s' h

open Readback in
/-- **the markers written in front of a filter give back its name and its description**: for non-empty prefixes
    neither of which begins a line written with the other, and texts in which the prefixes do not occur -/
theorem markers_give_back_name_and_description (npre dpre name desc dflt : Bytes) (hn : npre ≠ []) (hd : dpre ≠ [])
    (h1 : Readback.removeAll npre name = name) (h2 : Readback.removeAll dpre desc = desc)
    (h3 : B.startsWith (npre ++ name) dpre = false) (h4 : B.startsWith (dpre ++ desc) npre = false) :
    Readback.nameDescL npre dpre [npre ++ name, dpre ++ desc] (dflt, []) = (name, desc) := by
  simp only [nameDescL, B.startsWith_append, if_true, h3, h4, Bool.false_eq_true, if_false,
    removeAll_prefix _ _ hn, removeAll_prefix _ _ hd, h1, h2]

open Readback in
theorem name_marker_gives_back_the_name (npre dpre name dflt : Bytes) (hn : npre ≠ [])
    (h1 : Readback.removeAll npre name = name) (h3 : B.startsWith (npre ++ name) dpre = false) :
    Readback.nameDescL npre dpre [npre ++ name] (dflt, []) = (name, []) := by
  simp only [nameDescL, B.startsWith_append, if_true, h3, Bool.false_eq_true, if_false, removeAll_prefix _ _ hn, h1]

open Readback in
theorem text_without_the_first_prefix_byte_is_safe (p : UInt8) (ps s : Bytes) (h : ∀ c ∈ s, c ≠ p) :
    Readback.removeAll (p :: ps) s = s := by
  unfold removeAll
  simp only [List.isEmpty_cons, Bool.false_eq_true, if_false]
  induction s with
  | nil => rfl
  | cons c cs ih =>
    have hc : c ≠ p := h c (by simp)
    have hsw : B.startsWith (c :: cs) (p :: ps) = false := by
      simp [B.startsWith, hc]
    unfold removeAllAux
    simp only [hsw, Bool.false_eq_true, if_false]
    rw [ih (fun x hx => h x (by simp [hx]))]

open Machine in
/-- the parser's `strip()` removes nothing from a marker line whose text does not end in white space -/
theorem strip_marker (r x : Bytes) (hx : x ≠ []) (hl : B.isWs (x.getLast hx) = false) :
    stripWs ((35 :: r) ++ x) = (35 :: r) ++ x := by
  apply Comments.strip_keeps _ (by simp)
  · simp [B.isWs]
  · rw [List.getLast_append_of_ne_nil]; exact hl

open Machine in
/-- **renderer → lexer → parser → loader for the name marker**: the line the renderer writes (`prefix + name + "\n"`, the prefix
    beginning with `#`, a single-line name not ending in white space) is read as ONE hash comment of exactly that length,
    `strip()` (what the parser applies before storing it) removes nothing, and the loader gives back exactly the name -/
theorem written_name_marker_comes_back (p dpre name dflt rest : Bytes)
    (hnl : ∀ c ∈ p ++ name, c ≠ 10) (hne : name ≠ []) (hlast : B.isWs (name.getLast hne) = false)
    (h1 : Readback.removeAll (35 :: p) name = name) (h3 : B.startsWith ((35 :: p) ++ name) dpre = false) :
    Lex.one ((35 :: p) ++ name ++ 10 :: rest) = some (.hash_comment, (35 :: p).length + name.length) ∧
    stripWs ((35 :: p) ++ name) = (35 :: p) ++ name ∧
    Readback.nameDescL (35 :: p) dpre [stripWs ((35 :: p) ++ name)] (dflt, []) = (name, []) := by
  have hs := strip_marker p name hne hlast
  refine ⟨?_, hs, ?_⟩
  · have := hash_comment_is_the_rest_of_the_line (p ++ name) rest hnl
    simp only [List.cons_append, List.append_assoc, List.length_cons, List.length_append] at this ⊢
    rw [this]; congr 2; omega
  · rw [hs]
    exact name_marker_gives_back_the_name (35 :: p) dpre name dflt (by simp) h1 h3

open Machine in
theorem written_markers_come_back (p q name desc dflt : Bytes)
    (hne : name ≠ []) (hde : desc ≠ [])
    (hln : B.isWs (name.getLast hne) = false) (hld : B.isWs (desc.getLast hde) = false)
    (h1 : Readback.removeAll (35 :: p) name = name) (h2 : Readback.removeAll (35 :: q) desc = desc)
    (h3 : B.startsWith ((35 :: p) ++ name) (35 :: q) = false) (h4 : B.startsWith ((35 :: q) ++ desc) (35 :: p) = false) :
    Readback.nameDescL (35 :: p) (35 :: q) [stripWs ((35 :: p) ++ name), stripWs ((35 :: q) ++ desc)] (dflt, []) = (name, desc) := by
  rw [strip_marker p name hne hln, strip_marker q desc hde hld]
  exact markers_give_back_name_and_description (35 :: p) (35 :: q) name desc dflt (by simp) (by simp) h1 h2 h3 h4

/-- non-vacuity: the default markers with a non-ASCII name -/
example : Lex.one (sb "# Filter: café orders\nif true { keep; }") = some (.hash_comment, 21) ∧
    Machine.stripWs (sb "# Filter: café orders") = sb "# Filter: café orders" := by rw [sb_lit, sb_lit]; decide +kernel

/-- non-vacuity with the default prefixes; and a name that contains the prefix is damaged (why the quantifier excludes it) -/
example : Readback.nameDescL (sb "# Filter: ") (sb "# Description: ") [sb "# Filter: spam rule", sb "# Description: drop it"] (sb "Unnamed rule 1", [])
    = (sb "spam rule", sb "drop it") := by rw [sb_lit, sb_lit, sb_lit, sb_lit, sb_lit, sb_lit, sb_lit]; decide +kernel

example : Readback.nameDescL (sb "# Filter: ") (sb "# Description: ") [sb "# Filter: a # Filter: b"] (sb "Unnamed rule 1", [])
    = (sb "a b", []) := by rw [sb_lit, sb_lit, sb_lit, sb_lit, sb_lit]; decide +kernel

section SetLevel
open Readback

/-- what the loader makes of ONE top-level command: name and description from that command's own comments (the number
    only names an unnamed rule), the command itself as content, enabled unless it is an `if false` wrapper -/
def loadedOf (np dp : Bytes) (cpt : Nat) (f : Node) : Loaded :=
  { name := (nameDescL np dp f.comments (sb "Unnamed rule " ++ B.natToDec cpt, [])).1,
    description := (nameDescL np dp f.comments (sb "Unnamed rule " ++ B.natToDec cpt, [])).2,
    content := f, enabled := !isDisabled f }

/-- the loader as a specification: one filter per top-level command that is not a `require`, in order -/
def specLoad (np dp : Bytes) : List Node → Nat → List Loaded
  | [], _ => []
  | f :: r, cpt => if f.name == sb "require" then specLoad np dp r cpt else loadedOf np dp cpt f :: specLoad np dp r (cpt + 1)

theorem load_is_specLoad (np dp : Bytes) (ns : List Node) (cpt : Nat) (reqs : List Bytes) (acc : List Loaded) :
    (load np dp ns cpt reqs acc).2 = acc.reverse ++ specLoad np dp ns cpt := by
  fun_induction load np dp ns cpt reqs acc with
  | case1 => simp [specLoad]
  | case2 f rest cpt reqs acc h caps ih => rw [ih, specLoad, if_pos h]
  | case3 f rest cpt reqs acc h nm ds hnd ih =>
    rw [ih, specLoad, if_neg h, List.reverse_cons, List.append_assoc]
    simp [loadedOf, hnd]

theorem loaded_contents_are_the_commands_in_order (np dp : Bytes) (ns : List Node) (cpt : Nat) (reqs : List Bytes) :
    ((load np dp ns cpt reqs []).2.map (·.content)) = ns.filter (fun f => !(f.name == sb "require")) := by
  rw [load_is_specLoad, List.reverse_nil, List.nil_append]
  fun_induction specLoad np dp ns cpt with
  | case1 => rfl
  | case2 f r cpt h ih => rw [List.filter_cons, h, ih]; rfl
  | case3 f r cpt h ih => rw [List.filter_cons, Bool.eq_false_iff.2 h, List.map_cons, ih]; rfl

theorem loaded_filter_depends_on_its_own_command_only (np dp : Bytes) (ns : List Node) (cpt : Nat) (reqs : List Bytes)
    (l : Loaded) (h : l ∈ (load np dp ns cpt reqs []).2) :
    ∃ k, l = loadedOf np dp k l.content ∧ l.enabled = !isDisabled l.content := by
  rw [load_is_specLoad, List.reverse_nil, List.nil_append] at h
  fun_induction specLoad np dp ns cpt with
  | case1 => cases h
  | case2 f r cpt _ ih => exact ih h
  | case3 f r cpt _ ih =>
    rcases List.mem_cons.1 h with rfl | h
    · exact ⟨cpt, rfl, rfl⟩
    · exact ih h

/-- a command that carries no marker comment is loaded without description and under its ordinal, whatever the commands
    before it carried: nothing is inherited from a neighbour -/
theorem command_without_comments_loads_bare (np dp : Bytes) (k : Nat) (f : Node) (h : f.comments = []) :
    (loadedOf np dp k f).description = [] ∧ (loadedOf np dp k f).name = sb "Unnamed rule " ++ B.natToDec k := by
  simp [loadedOf, h, nameDescL]

/-- the extension names a `require` command carries (string or list form) -/
def capsOf (f : Node) : List Bytes :=
  match assocGet f.args "capabilities" with
  | some (.strs _ l) => l
  | some (.str _ v) => [v]
  | _ => []

/-- the requirement list after loading: every name of every `require` command, added in script order through the set's own
    `require` (which skips names already present); no other command contributes and the filters loaded so far do not matter -/
theorem loaded_requirements_are_the_require_commands (np dp : Bytes) (ns : List Node) (cpt : Nat) (reqs : List Bytes)
    (acc : List Loaded) :
    (load np dp ns cpt reqs acc).1 =
      (ns.filter (fun f => f.name == sb "require")).foldl (fun r f => (capsOf f).foldl Factory.require r) reqs := by
  fun_induction load np dp ns cpt reqs acc with
  | case1 => rfl
  | case2 f rest cpt reqs acc h caps ih => rw [ih, List.filter_cons, if_pos h]; rfl
  | case3 f rest cpt reqs acc h nm ds hnd ih => rw [ih, List.filter_cons, if_neg h]

/-- `getfilter` on a loaded set: an enabled filter gives its command, a disabled one what stands inside its `if false`
    wrapper — decided by the command itself, not by anything remembered from before the reload -/
theorem loaded_filter_body (np dp : Bytes) (ns : List Node) (cpt : Nat) (reqs : List Bytes)
    (l : Loaded) (h : l ∈ (load np dp ns cpt reqs []).2) :
    filterBody l = if isDisabled l.content then l.content.children.head? else some l.content := by
  obtain ⟨k, _, he⟩ := loaded_filter_depends_on_its_own_command_only np dp ns cpt reqs l h
  unfold filterBody
  rw [he]
  cases isDisabled l.content <;> simp

end SetLevel

theorem lexer_is_the_modelled_one :
    Generated.lexRuleNames = TokKind.all.map TokKind.name ∧ Generated.lexRulePatterns = TokKind.patterns ∧
      Generated.parserPatterns = TokKind.auxPatterns := Generated.lexer_is_the_modelled_one

end C11
