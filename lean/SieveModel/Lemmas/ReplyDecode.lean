import SieveModel.Lemmas.Reader
import SieveModel.Model.Client
import SieveModel.Lemmas.Codec
import SieveModel.Lemmas.Lex
/-! Decoding of status replies: what `__parse_error` extracts from a reply built per RFC 5804.

`__parse_error` works in two steps that do not know of each other: an optional response code is split off
(`splitCode`), then what is left is a literal announcement, a quoted string, or nothing.  The lemmas follow that cut:
two about `splitCode`, three about what follows — every reply shape is one of the first with one of the second. -/
namespace ReplyDecode
open Reader Client

/-- the reply decoder's quoted-string scanner stops exactly at the closing quote of an escaped value -/
theorem quotedBody_escapeQ (v rest : Bytes) :
    quotedBody (escapeQ v ++ 34 :: rest) = some (escapeQ v, rest) := by
  induction v with
  | nil => simp [escapeQ, quotedBody]
  | cons c cs ih =>
    rcases escapeQ_cons c cs with ⟨hc | hc, e⟩ | ⟨hc, e⟩ <;> rw [e, List.cons_append, quotedBody.eq_def]
    · subst hc; simp [ih]
    · subst hc; simp [ih]
    · simp [hc.1, hc.2, ih]

theorem unescape_escapeQ (v : Bytes) : unescape (escapeQ v) = v := by
  induction v with
  | nil => simp [escapeQ, unescape]
  | cons c cs ih =>
    rcases escapeQ_cons c cs with ⟨hc | hc, e⟩ | ⟨hc, e⟩ <;> rw [e, unescape.eq_def]
    · subst hc; simp [ih]
    · subst hc; simp [ih]
    · simp [hc.1, ih]

/-- a response code `(atom)` in front of the text is split off, with the blanks after it -/
theorem splitCode_code (atom tail : Bytes) (hne : atom ≠ []) (h : ∀ c ∈ atom, isAtomByte c = true) :
    splitCode (40 :: (atom ++ 41 :: tail)) = (atom, tail.dropWhile B.isWs) := by
  obtain ⟨ht, hd⟩ := List.span_append atom (41 :: tail) h fun c hc => by cases hc; rfl
  have hemp : atom.isEmpty = false := by cases atom <;> simp at hne ⊢
  have hws : List.dropWhile B.isWs (41 :: tail) = 41 :: tail := by simp [List.dropWhile, B.isWs]
  simp [splitCode, codeMatch, ht, hd, hemp, hws]

theorem splitCode_plain (t : Bytes) (h : t.head? ≠ some 40) : splitCode t = ([], t) := by
  have : codeMatch t = none := by
    unfold codeMatch
    split
    · simp at h
    · rfl
  simp [splitCode, this]

theorem spanLen_digits_append (ds : Bytes) (c : UInt8) (rest : Bytes) (hall : ∀ d ∈ ds, B.isDigit d = true)
    (hc : B.isDigit c = false) : Lex.spanLen B.isDigit (ds ++ c :: rest) = ds.length :=
  Lex.spanLen_all _ ds _ hall fun _ _ h => (List.cons.inj h).1 ▸ hc

theorem sizeMatch_header (n : Nat) (ds : Bytes) (hne : ds ≠ []) (hall : ∀ d ∈ ds, B.isDigit d = true)
    (hval : B.decToNat ds = n) (rest : Bytes) : sizeMatch (123 :: (ds ++ 125 :: rest)) = some n := by
  unfold sizeMatch
  have hk := spanLen_digits_append ds 125 rest hall (by decide)
  have hpos : (ds.length == 0) = false := by cases ds <;> simp at hne ⊢
  simp only [hk, hpos, Bool.false_eq_true, if_false, List.drop_left, List.take_left, hval]

/-- no text: the code alone, the message cleared -/
theorem parseError_split_none {t code : Bytes} (h : splitCode t = (code, [])) (st : RState) :
    parseError (some t) st = .ok { st with errcode := code, errmsg := [] } := by
  simp [parseError, h, sizeMatch, textMatch]

/-- quoted text: the message is the text, un-escaped -/
theorem parseError_split_quoted {t code : Bytes} (text : Bytes) (h : splitCode t = (code, 34 :: (escapeQ text ++ [34])))
    (st : RState) : parseError (some t) st = .ok { st with errcode := code, errmsg := text } := by
  simp [parseError, h, sizeMatch, textMatch, quotedBody_escapeQ, unescape_escapeQ]

/-- literal text: taken by count from what follows the line, its CRLF consumed with it, and nothing else -/
theorem parseError_split_literal {t code : Bytes} (ds text more : Bytes) (h : splitCode t = (code, 123 :: (ds ++ [125])))
    (hds : ds ≠ []) (hall : ∀ d ∈ ds, B.isDigit d = true) (hval : B.decToNat ds = text.length)
    (st : RState) (hp : pending st = text ++ 13 :: 10 :: more) :
    ∃ st', parseError (some t) st = .ok st' ∧ st'.errcode = code ∧ st'.errmsg = text ∧ pending st' = more := by
  obtain ⟨st', he, k⟩ := readBlock_crlf { st with errcode := code, errmsg := [] } text more hp
  refine ⟨{ st' with errmsg := text }, ?_, k.errcode, rfl, k.pending⟩
  simp [parseError, h, sizeMatch_header text.length ds hds hall hval [], he]

end ReplyDecode
