import SieveModel.Lemmas.TokThread
import SieveModel.Lemmas.Safe
/-!
# Every argument of an accepted tree is a token of the script, of a kind its slot admits

`NodeT TokP T n`: in the tree below `n`, every node's definition was looked up for an identifier token; every scalar
argument is the text of a string / multi-line / number / tag token, stored under the name of a slot of the node's
definition whose types admit that kind of token (`__is_valid_type`); every list argument sits in a slot that admits
string lists; every tag parameter is such a token text stored under a slot whose `extra_arg` admits its type.
`accepted_tree_typed`: the result of an accepted parse is a forest of such nodes, `TokP` being "is a token of the
lexed script".  Table condition (decidable): the two slots `reassign_arguments` moves a value between have the same types.
-/
namespace Typed
open Machine Args ArgsSafe TokThread

/-- `raw` is the text of a scalar token, offered under the argument type `t` of its kind -/
def TokArg (TokP : Tok → Prop) (raw : Bytes) (t : ArgType) : Prop :=
  ∃ tok, TokP tok ∧ tok.text = raw ∧
    (((tok.kind = .string ∨ tok.kind = .multiline) ∧ t = .string) ∨ (tok.kind = .number ∧ t = .number) ∨
      (tok.kind = .tag ∧ t = .tag))

/-- the value set of a slot admits the text (case-insensitively), or the slot has no value set -/
def valueIn (a : ArgDef) (raw : Bytes) : Prop :=
  (a.values.isNone = true ∧ a.extValues.isEmpty = true) ∨ inValues a.values (B.lower raw) = true ∨
    (extLookup a.extValues (B.lower raw)).isSome = true

/-- a recorded argument sits in a slot of the definition that admits its kind and its value -/
def ArgT (TokP : Tok → Prop) (d : CmdDef) : Arg → Prop
  | .str k raw => ∃ a ∈ d.args, a.name = k ∧ valueIn a raw ∧ ∃ t, TokArg TokP raw t ∧ validType t a.types = true
  | .strs k l => (∃ a ∈ d.args, a.name = k ∧ validType .stringlist a.types = true ∧
      a.values.isNone = true ∧ a.extValues.isEmpty = true) ∧ ItemsP TokP l
  | _ => True

/-- the value list of a tag parameter admits the text exactly, or there is none -/
def paramIn (e : ExtraDef) (raw : Bytes) : Prop :=
  match e.values with
  | none => True
  | some vs => raw ∈ vs

/-- a recorded tag parameter sits under a slot whose `extra_arg` admits its kind and its value -/
def ExtraT (TokP : Tok → Prop) (d : CmdDef) : Arg → Prop
  | .str k raw => ∃ c ∈ d.args, c.name = k ∧ ∃ e, c.extra = some e ∧ paramIn e raw ∧ ∃ t, TokArg TokP raw t ∧ atypeIn t e = true
  | .strs k l => (∃ c ∈ d.args, c.name = k ∧ ∃ e, c.extra = some e ∧ e.values = none ∧ atypeIn .stringlist e = true) ∧
      ItemsP TokP l
  | _ => True

inductive NodeT (TokP : Tok → Prop) (T : Table) : Node → Prop
  | mk (name : Bytes) (args extra : List Arg) (children : List Node) (comments : List Bytes) (d : CmdDef)
      (hnamed : Named TokP T d) (hname : d.name = name)
      (hargs : ∀ a ∈ args, ArgT TokP d a)
      (hextra : ∀ a ∈ extra, ExtraT TokP d a)
      (hkids : ∀ c ∈ children, NodeT TokP T c)
      (htest : ∀ k n, Arg.test k n ∈ args ++ extra → NodeT TokP T n)
      (htests : ∀ k l, Arg.tests k l ∈ args ++ extra → ∀ n ∈ l, NodeT TokP T n) :
      NodeT TokP T (.mk name args extra children comments)

/-- test-valued arguments hold well-typed trees -/
def SubT (TokP : Tok → Prop) (T : Table) : Arg → Prop
  | .test _ n => NodeT TokP T n
  | .tests _ l => ∀ n ∈ l, NodeT TokP T n
  | _ => True

structure FrameT (TokP : Tok → Prop) (T : Table) (f : Frame) : Prop where
  named : Named TokP T f.d
  cur : ∀ c, f.st.curarg = some c → c ∈ f.d.args
  args : ∀ a ∈ f.st.arguments, ArgT TokP f.d a ∧ SubT TokP T a
  extra : ∀ a ∈ f.st.extraArgs, ExtraT TokP f.d a ∧ SubT TokP T a
  kids : ∀ c ∈ f.children, NodeT TokP T c

/-- the slots `reassign_arguments` moves a value between carry the same types -/
def reassignOK (d : CmdDef) : Bool :=
  d.special != .hasflag ||
    (match d.args.find? (fun a => a.name == "variable-list"), d.args.find? (fun a => a.name == "list-of-flags") with
     | some a, some b => a.types == b.types && d.args.all (fun x => x.name != "variable-list" || x.types == a.types) &&
         b.values.isNone && b.extValues.isEmpty
     | _, _ => false)

def TableT (T : Table) : Prop := ∀ d ∈ T, reassignOK d = true

instance (T : Table) : Decidable (TableT T) := by unfold TableT; infer_instance

section
variable {TokP : Tok → Prop} {T : Table}

theorem named_mem {d : CmdDef} (h : Named TokP T d) : d ∈ T :=
  let ⟨_, _, _, hl⟩ := h; Table.lookup_mem hl

theorem valueIn_listed {a : ArgDef} {raw : Bytes} (h : valueIn a raw)
    (hl : (a.values.isNone && a.extValues.isEmpty) = false) :
    B.lower raw ∈ a.values.getD [] ++ a.extValues.map (·.1) := by
  rcases h with h | h | h
  · rw [h.1, h.2] at hl; cases hl
  · cases hv : a.values with
    | none => rw [hv] at h; cases h
    | some vs => rw [hv] at h; exact List.mem_append_left _ (of_decide_eq_true h)
  · rw [extLookup, Option.isSome_map, List.find?_isSome] at h
    obtain ⟨p, hp, hk⟩ := h
    exact List.mem_append_right _ (List.mem_map.2 ⟨p, hp, eq_of_beq hk⟩)

theorem validType_of_mem (t : ArgType) (ts : List ArgType) (h : t ∈ ts) : validType t ts = true := by
  simp [validType, h]

/-- what `reassignOK` says of a `hasflag` definition: it has a `list-of-flags` slot, without a value set, of the types
    every `variable-list` slot has -/
theorem reassignOK_spec {d : CmdDef} (h : reassignOK d = true) (hsp : d.special = .hasflag) :
    ∃ b ∈ d.args, b.name = "list-of-flags" ∧ (b.values.isNone = true ∧ b.extValues.isEmpty = true) ∧
      ∀ s ∈ d.args, s.name = "variable-list" → s.types = b.types := by
  simp only [reassignOK, hsp, bne_self_eq_false, Bool.false_or] at h
  split at h
  · rename_i a b ha hb
    simp only [Bool.and_eq_true, beq_iff_eq, List.all_eq_true, Bool.or_eq_true, bne_iff_ne, ne_eq] at h
    obtain ⟨⟨⟨h1, h2⟩, h3⟩, h4⟩ := h
    exact ⟨b, List.mem_of_find?_eq_some hb, by simpa using List.find?_some hb, ⟨h3, h4⟩,
      fun s hs hn => ((h2 s hs).resolve_left (· hn)).trans h1⟩
  · cases h

theorem argT_value {d : CmdDef} {a : ArgDef} {t : ArgType} {v : AVal} {ld : List Bytes} {ce : Bool} (ha : a ∈ d.args)
    (hvt : validType t a.types = true) (hval : validValue a v ld ce = .ok true)
    (hv : Offered TokP t v ∨ ∃ n, v = .test n ∧ NodeT TokP T n) :
    ArgT TokP d (v.toArg a.name) ∧ SubT TokP T (v.toArg a.name) := by
  rcases hv with (⟨tok, htok, rfl, hk⟩ | ⟨rfl, l, rfl, hitems⟩) | ⟨n, rfl, hn⟩
  · refine ⟨⟨a, ha, rfl, ?_, t, ⟨tok, htok, rfl, hk⟩, hvt⟩, trivial⟩
    rcases validValue_true hval with h | ⟨_, e, h | ⟨_, he, _⟩⟩
    · exact .inl h
    · cases e; exact .inr (.inl h)
    · cases e; exact .inr (.inr (he ▸ rfl))
  · have hfree := (validValue_true hval).resolve_right fun ⟨_, e, _⟩ => nomatch e
    exact ⟨⟨⟨a, ha, rfl, hvt, hfree⟩, hitems⟩, trivial⟩
  · exact ⟨trivial, hn⟩

theorem extraT_value {d : CmdDef} {c : ArgDef} {e : ExtraDef} {t : ArgType} {v : AVal} (hc : c ∈ d.args)
    (hce : c.extra = some e) (hacc : extraAccepts e t v = true)
    (hv : Offered TokP t v ∨ ∃ n, v = .test n ∧ NodeT TokP T n) :
    ExtraT TokP d (v.toArg c.name) ∧ SubT TokP T (v.toArg c.name) := by
  obtain ⟨hat, hvs⟩ := extraAccepts_true hacc
  rcases hv with (⟨tok, htok, rfl, hk⟩ | ⟨rfl, l, rfl, hitems⟩) | ⟨n, rfl, hn⟩
  · refine ⟨⟨c, hc, rfl, e, hce, ?_, t, ⟨tok, htok, rfl, hk⟩, hat⟩, trivial⟩
    unfold paramIn
    rcases hvs with hv | ⟨_, vs, e', hv, hm⟩ <;> rw [hv]
    · trivial
    · cases e'; exact hm
  · have hnone := hvs.resolve_right fun ⟨_, _, e', _⟩ => nomatch e'
    exact ⟨⟨⟨c, hc, rfl, e, hce, hnone, hat⟩, hitems⟩, trivial⟩
  · exact ⟨trivial, hn⟩

theorem subT_rekey (k : String) (a : Arg) (h : SubT TokP T a) : SubT TokP T (a.rekey k) := by
  cases a <;> exact h

/-- a value may move to a slot without a value set that has the types of the slot it was accepted in -/
theorem argT_rekey {d : CmdDef} {a : Arg} {b : ArgDef} (hb : b ∈ d.args)
    (hfree : b.values.isNone = true ∧ b.extValues.isEmpty = true)
    (htypes : ∀ s ∈ d.args, s.name = a.key → s.types = b.types) (h : ArgT TokP d a) : ArgT TokP d (a.rekey b.name) := by
  cases a with
  | str k raw =>
    obtain ⟨s, hs, hsn, _, t, htok, hvt⟩ := h
    exact ⟨b, hb, rfl, .inl hfree, t, htok, htypes s hs hsn ▸ hvt⟩
  | strs k l =>
    obtain ⟨⟨s, hs, hsn, hvt, _⟩, hitems⟩ := h
    exact ⟨⟨b, hb, rfl, htypes s hs hsn ▸ hvt, hfree⟩, hitems⟩
  | _ => trivial

theorem FrameT.node {f : Frame} (h : FrameT TokP T f) (c : List Bytes) : NodeT TokP T (Frame.toNode f c) := by
  have hall : ∀ a ∈ f.st.arguments ++ f.st.extraArgs, SubT TokP T a :=
    List.forall_mem_append.mpr ⟨fun a ha => (h.args a ha).2, fun a ha => (h.extra a ha).2⟩
  exact .mk _ _ _ _ _ f.d h.named rfl (fun a ha => (h.args a ha).1) (fun a ha => (h.extra a ha).1) h.kids
    (fun _ _ hm => hall _ hm) (fun _ _ hm => hall _ hm)

theorem FrameT.fresh (d : CmdDef) (hn : Named TokP T d) (a : Attach) : FrameT TokP T { d := d, attach := a } :=
  ⟨hn, fun _ h => (by cases h), List.forall_mem_nil _, List.forall_mem_nil _, List.forall_mem_nil _⟩

theorem checkNextArg_T {f : Frame} {ld : List Bytes} {t : ArgType} {v : AVal} {add ce : Bool} {st' : CState}
    {pl : Placement} (hf : FrameT TokP T f) (hv : Offered TokP t v ∨ ∃ n, v = .test n ∧ NodeT TokP T n)
    (h : checkNextArg f.d ld f.st t v add ce = .ok (some (st', pl))) : FrameT TokP T { f with st := st' } := by
  obtain ⟨h1, h2, h3⟩ := Safe.checkNextArg_stored h
  refine ⟨hf.named, fun c hc => (h3 c hc).elim (hf.cur c) id, fun x hx => ?_, fun x hx => ?_, hf.kids⟩
  · cases h1 x hx with
    | old h => exact hf.args x h
    | slot ha hvt hval => exact argT_value ha hvt hval hv
    | @appended _ n _ _ _ hvn hts =>
      obtain ⟨_, e, hn⟩ := hv.resolve_left fun ho => ho.ne_test n hvn
      cases hvn.symm.trans e
      exact ⟨trivial, fun m hm => (hts m hm).elim (· ▸ hn) fun ⟨ts', hmem, hm'⟩ => (hf.args _ hmem).2 m hm'⟩
  · cases h2 x hx with
    | old h => exact hf.extra x h
    | param hcur hce hacc => exact extraT_value (hf.cur _ hcur) hce hacc hv

theorem plug_T (p : Frame) (a : Attach) (n : Node) (hp : FrameT TokP T p) (hn : NodeT TokP T n) :
    FrameT TokP T (plug p a n) := by
  rcases plug_cases p a n with e | ⟨_, e⟩ | ⟨k, _, e⟩ | ⟨k, _, e⟩ | ⟨k, ts, _, hin, e⟩ <;> rw [e]
  · exact hp
  · exact { hp with kids := List.forall_mem_snoc hp.kids hn }
  · exact { hp with args := forall_mem_assocSet hp.args ⟨trivial, hn⟩ }
  · exact { hp with extra := forall_mem_assocSet hp.extra ⟨trivial, hn⟩ }
  · have hts := forall_mem_replaceLast (hp.args _ hin).2 hn
    exact { hp with args := forall_mem_assocSet hp.args ⟨trivial, hts⟩ }

theorem reassign_T (hT : TableT T) (f f' : Frame) (hf : FrameT TokP T f) (h : reassign f = some f') :
    FrameT TokP T f' := by
  obtain ⟨hsp, a, hget, _, rfl⟩ := reassign_some h
  obtain ⟨hin, hk⟩ := assocGet_some hget
  obtain ⟨ht, hs⟩ := hf.args a hin
  obtain ⟨b, hb, hname, hfree, htypes⟩ := reassignOK_spec (hT f.d (named_mem hf.named)) hsp
  have hmoved := And.intro (argT_rekey hb hfree (fun s hs hn => htypes s hs (hn.trans hk)) ht) (subT_rekey b.name a hs)
  exact { hf with args := List.forall_mem_snoc (forall_mem_assocErase _ hf.args) (hname ▸ hmoved) }

end

theorem closed {TokP : Tok → Prop} {T : Table} (hT : TableT T) :
    Closed TokP T (FrameT TokP T) (fun _ _ _ => True) (fun _ _ _ => True) (fun res => ∀ n ∈ res, NodeT TokP T n) where
  nil := List.forall_mem_nil _
  pushTop := fun d _ hn _ _ _ _ => ⟨FrameT.fresh d hn .top, trivial⟩
  pushChild := fun d _ hn _ _ _ _ _ => ⟨FrameT.fresh d hn .child, trivial⟩
  pushTest := fun d _ hn _ _ _ _ hf _ hcna =>
    ⟨checkNextArg_T hf (.inr ⟨_, rfl, (FrameT.fresh d hn .top).node []⟩) hcna, FrameT.fresh d hn _, trivial⟩
  value := fun _ _ _ _ _ _ hf hoff hcna => checkNextArg_T hf (.inl hoff) hcna
  -- with `add` off nothing is stored, so the frame's own node may stand for the test that is offered
  dry := fun _ _ n _ _ hf hcna => checkNextArg_T hf (.inr ⟨_, rfl, hf.node []⟩) (checkNextArg_dry _ _ _ _ n _ ▸ hcna)
  plug := fun p _ hp hf _ => plug_T p _ _ hp (hf.node [])
  reassign := reassign_T hT
  record := fun _ _ c hf _ hres => List.forall_mem_snoc hres (hf.node c)

theorem accepted_tree_typed {T : Table} (hT : TableT T) (text : Bytes) (prev : PState) (r : List Node)
    (h : parse T text prev = .accept r) :
    ∃ lr, Lex.lex text = some lr ∧ ∀ n ∈ r, NodeT (fun tok => tok ∈ lr.toks) T n := by
  obtain ⟨lr, _, _, hl, _⟩ := parse_accept_iff.mp h
  refine ⟨lr, hl, TokThread.accepted_result (closed (TokP := fun tok => tok ∈ lr.toks) hT) text prev r (fun lr' hl' => ?_) h⟩
  cases hl.symm.trans hl'
  exact fun _ h => h

end Typed
