import SieveModel.Model.Base64
import SieveModel.Lemmas.Bytes
/-! `decode (encode b) = some b` for every byte string. -/

namespace Base64

/-- the one table fact: the alphabet is decoded position by position -/
theorem dec6_enc6 : ∀ k, k < 64 → dec6 (enc6 k) = some k := by
  unfold enc6 alphabet; rw [sb_lit]; decide +kernel

theorem dec6_ne_pad {c : UInt8} {x : Nat} (h : dec6 c = some x) : c ≠ 61 := by
  rintro rfl; cases h

theorem toUInt8_toNat (a : UInt8) : a.toNat.toUInt8 = a := UInt8.ofNat_toNat

/-! `decode` on each of its three shapes, for any characters with known sextets.  A character that has a
    sextet is not the pad, which is all that tells the shapes apart. -/

theorem decode_quad {a b c d : UInt8} {x y z w : Nat} (rest : Bytes)
    (ha : dec6 a = some x) (hb : dec6 b = some y) (hc : dec6 c = some z) (hd : dec6 d = some w) :
    decode (a :: b :: c :: d :: rest) = (decode rest).map fun r =>
      ((((x * 64 + y) * 64 + z) * 64 + w) / 65536).toUInt8 ::
      ((((x * 64 + y) * 64 + z) * 64 + w) / 256 % 256).toUInt8 ::
      ((((x * 64 + y) * 64 + z) * 64 + w) % 256).toUInt8 :: r := by
  rw [decode, ha, hb, hc, hd]
  · cases decode rest <;> rfl
  · exact fun _ h _ => dec6_ne_pad hd h
  · exact fun h _ => dec6_ne_pad hd h

theorem decode_tri {a b c : UInt8} {x y z : Nat} (ha : dec6 a = some x) (hb : dec6 b = some y) (hc : dec6 c = some z) :
    decode [a, b, c, 61] = some [(((x * 64 + y) * 64 + z) / 1024).toUInt8, (((x * 64 + y) * 64 + z) / 4 % 256).toUInt8] := by
  rw [decode, ha, hb, hc]
  · rfl
  · exact fun h => dec6_ne_pad hc h

theorem decode_duo {a b : UInt8} {x y : Nat} (ha : dec6 a = some x) (hb : dec6 b = some y) :
    decode [a, b, 61, 61] = some [((x * 64 + y) / 16).toUInt8] := by
  rw [decode, ha, hb]; rfl

/-! The arithmetic: a number is rebuilt from its sextets one at a time, and three bytes are read off their sum. -/

theorem sextet (n k : Nat) : n / (k * 64) * 64 + n / k % 64 = n / k := by
  rw [← Nat.div_div_eq_div_mul, Nat.div_add_mod']

theorem bytes3 {n a b c : Nat} (hn : n = a * 65536 + b * 256 + c) (ha : a < 256) (hb : b < 256) (hc : c < 256) :
    n / 65536 = a ∧ n / 256 % 256 = b ∧ n % 256 = c ∧ n / 262144 < 64 := by omega

theorem decode_encode (b : Bytes) : decode (encode b) = some b := by
  have m64 (k : Nat) : k % 64 < 64 := Nat.mod_lt _ (by decide)
  fun_induction encode b with
  | case1 a b c rest n ih =>
    obtain ⟨h1, h2, h3, h4⟩ := bytes3 (n := n) rfl a.toNat_lt b.toNat_lt c.toNat_lt
    rw [decode_quad _ (dec6_enc6 _ h4) (dec6_enc6 _ (m64 _)) (dec6_enc6 _ (m64 _)) (dec6_enc6 _ (m64 _)), ih,
      sextet n 4096, sextet n 64, Nat.div_add_mod', h1, h2, h3]
    simp only [toUInt8_toNat, Option.map]
  | case2 a b n =>
    obtain ⟨h1, h2, -, h4⟩ := bytes3 (n := n) (c := 0) (Nat.add_zero _).symm a.toNat_lt b.toNat_lt (by decide)
    rw [decode_tri (dec6_enc6 _ h4) (dec6_enc6 _ (m64 _)) (dec6_enc6 _ (m64 _)),
      sextet n 4096, sextet n 64, Nat.div_div_eq_div_mul, Nat.div_div_eq_div_mul, h1, h2, toUInt8_toNat, toUInt8_toNat]
  | case3 a n =>
    obtain ⟨h1, -, -, h4⟩ := bytes3 (n := n) (b := 0) (c := 0) (by omega) a.toNat_lt (by decide) (by decide)
    rw [decode_duo (dec6_enc6 _ h4) (dec6_enc6 _ (m64 _)), sextet n 4096, Nat.div_div_eq_div_mul, h1, toUInt8_toNat]
  | case4 => rfl

end Base64
