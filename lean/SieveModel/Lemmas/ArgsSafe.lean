import SieveModel.Lemmas.Machine
import SieveModel.Model.Safety
import SieveModel.Lemmas.Scan
/-! The argument interpreter never raises an *unexpected* exception on the calls the parser makes: the value has
    the shape its type promises (`Consistent`), the definition satisfies `defSafe` (a decidable condition, part of
    `Safe.cmdSafe`, checked on the live table), and where it has a `testlist` slot everything recorded so far is a
    test list (`ArgsOK`, kept by every accepted argument).  Each leaf that can raise (`validValue`, `wantsExtra`,
    `appendTest`) is looked at once; `check_next_arg` fails only where a leaf fails (`Args.checkNextArg_error`). -/
namespace ArgsSafe
open Args

/-- the value handed over has the shape its declared type promises -/
def Consistent : ArgType → AVal → Prop
  | .string, .str _ => True
  | .number, .str _ => True
  | .tag, .str _ => True
  | .stringlist, .strs _ => True
  | .test, .test _ => True
  | _, _ => False

theorem consistent_test_node (n : Node) : Consistent .test (.test n) := trivial

theorem consistent_strs (l : List Bytes) : Consistent .stringlist (.strs l) := trivial

theorem consistent_strs_type (t : ArgType) (l : List Bytes) (h : Consistent t (.strs l)) : t = .stringlist := by
  cases t <;> simp [Consistent] at h <;> rfl

def SlotsSafe (T : Table) : Prop := ∀ d ∈ T, defSafe d = true

/-- state condition: in a definition with a `testlist` slot, everything recorded is a test list -/
def ArgsOK (d : CmdDef) (st : CState) : Prop :=
  d.args.any (fun a => a.types == [.testlist]) = true → ∀ x ∈ st.arguments, ∃ k ts, x = .tests k ts

theorem consistent_test {v : AVal} (hc : Consistent .test v) : ∃ n, v = .test n := by
  cases v with
  | test n => exact ⟨n, rfl⟩
  | _ => exact False.elim hc

theorem str_of_scalar {ts : List ArgType} {t : ArgType} {v : AVal} (hc : Consistent t v)
    (ht : validType t ts = true ∨ t ∈ ts)
    (hs : (!decide (ArgType.stringlist ∈ ts) && !decide (ArgType.test ∈ ts) && !decide (ArgType.testlist ∈ ts)) = true) :
    ∃ r, v = .str r := by
  simp only [Bool.and_eq_true, Bool.not_eq_true', decide_eq_false_iff_not] at hs
  have hmem : t = .string ∨ t ∈ ts := by
    rcases ht with ht | ht
    · simp only [validType, Bool.or_eq_true, Bool.and_eq_true, decide_eq_true_eq, beq_iff_eq] at ht
      exact ht.symm.imp_left (·.1)
    · exact .inr ht
  cases v with
  | str r => exact ⟨r, rfl⟩
  | strs l =>
    -- only `stringlist` goes with a list, only `test` with a test: and the slot admits neither
    cases t <;> try exact False.elim hc
    exact absurd (hmem.resolve_left nofun) hs.1.1
  | test n =>
    cases t <;> try exact False.elim hc
    exact absurd (hmem.resolve_left nofun) hs.1.2

/-- `.lower()` is called on the value only when the slot has a value set -/
theorem validValue_crash {a : ArgDef} {v : AVal} {ld : List Bytes} {ce : Bool} {w : String}
    (h : validValue a v ld ce = .error (.crash w)) :
    (a.values.isNone && a.extValues.isEmpty) = false ∧ ∀ r, v ≠ .str r := by
  revert h
  fun_cases validValue a v ld ce with
  | case6 v h0 hv => exact fun _ => ⟨Bool.eq_false_iff.mpr h0, hv⟩
  | _ => nofun

/-- `.lower()` is called on the value only when the slot's parameter has a `valid_for` -/
theorem wantsExtra_crash {a : ArgDef} {v : AVal} {w : String} (h : wantsExtra a v = .error (.crash w)) :
    (∃ e, a.extra = some e ∧ e.validFor.isNone = false) ∧ ∀ r, v ≠ .str r := by
  revert h
  fun_cases wantsExtra a v with
  | case3 e he vf hvf => exact fun h => ⟨⟨e, he, by rw [hvf]; rfl⟩, fun r hr => by subst hr; cases h⟩
  | _ => nofun

theorem appendTest_no_crash {l : List Arg} {k : String} {n : Node} (hall : ∀ x ∈ l, ∃ k' ts, x = .tests k' ts)
    (w : String) : appendTest l k (.test n) ≠ .error (.crash w) := by
  generalize hv : AVal.test n = v
  fun_cases appendTest l k v with
  | case1 | case3 => nofun
  | case2 n x hx hg => obtain ⟨k', ts, rfl⟩ := hall x (assocGet_some hg).1; exact (hx k' ts rfl).elim
  | case4 v hne => exact (hne n hv.symm).elim

theorem appendTest_tests {l l' : List Arg} {k : String} {v : AVal} (hall : ∀ x ∈ l, ∃ k' ts, x = .tests k' ts)
    (h : appendTest l k v = .ok l') : ∀ x ∈ l', ∃ k' ts, x = .tests k' ts := by
  intro x hx
  obtain ⟨n, -, ⟨_, ts, -, rfl⟩ | ⟨-, rfl⟩⟩ := appendTest_ok h
  · exact (mem_assocSet hx).elim (hall x) fun hx => ⟨_, _, hx⟩
  · exact (List.mem_append.mp hx).elim (hall x) fun hx => ⟨_, _, List.mem_singleton.mp hx⟩

theorem _root_.Args.SlotErr.no_crash {cmd : Bytes} {ld : List Bytes} {ce : Bool} {t : ArgType} {v : AVal} {st : CState}
    {a : ArgDef} {e : CmdErr} (h : SlotErr cmd ld ce t v st a e) (hs : slotSafe a = true) (hc : Consistent t v)
    (htl : a.types = [.testlist] → ∀ x ∈ st.arguments, ∃ k ts, x = .tests k ts) (w : String) : e ≠ .crash w := by
  rintro rfl
  obtain ⟨hs1, hs2⟩ := (Bool.and_eq_true _ _).mp hs
  cases h with
  | append ht htest happ =>
    subst htest
    obtain ⟨n, rfl⟩ := consistent_test hc
    exact appendTest_no_crash (htl ht) w happ
  | value ht hv =>
    obtain ⟨hvals, hns⟩ := validValue_crash hv
    rw [hvals] at hs1
    obtain ⟨r, rfl⟩ := str_of_scalar hc ht hs1
    exact hns r rfl
  | extra hreq ht hw =>
    obtain ⟨⟨e, he, hvf⟩, hns⟩ := wantsExtra_crash hw
    rw [he] at hs2
    dsimp only at hs2
    rw [hvf, hreq] at hs2
    obtain ⟨r, rfl⟩ := str_of_scalar hc (.inr ht) hs2
    exact hns r rfl

theorem single_testlist (d : CmdDef) (hd : defSafe d = true)
    (h : d.args.any (fun a => a.types == [.testlist]) = true) :
    ∃ a, d.args = [a] ∧ a.types = [.testlist] ∧ a.required = true := by
  simp only [defSafe, Bool.and_eq_true, Bool.or_eq_true] at hd
  rcases hd.2 with h1 | h1
  · exfalso
    simp only [List.any_eq_true] at h
    obtain ⟨a, ha, hat⟩ := h
    simp only [List.all_eq_true] at h1
    have := h1 a ha
    simp at this hat
    exact this hat
  · cases hargs : d.args with
    | nil => simp [hargs] at h
    | cons a rest =>
      cases rest with
      | cons b r => simp [hargs] at h1
      | nil =>
        refine ⟨a, rfl, ?_, ?_⟩
        · simpa [hargs] using h
        · simpa [hargs] using h1.2

theorem checkNextArg_no_crash {d : CmdDef} (hd : defSafe d = true) {ld : List Bytes} {st : CState} {t : ArgType}
    {v : AVal} {add ce : Bool} (hok : ArgsOK d st) (hc : Consistent t v) (w : String) :
    checkNextArg d ld st t v add ce ≠ .error (.crash w) := by
  intro h
  obtain ⟨_, _, _, he⟩ | ⟨a, ha, herr⟩ := checkNextArg_error h
  · cases he
  · have ha := List.mem_of_mem_drop ha
    simp only [defSafe, Bool.and_eq_true, List.all_eq_true] at hd
    exact herr.no_crash (hd.1 a ha) hc (fun hat => hok (List.any_eq_true.mpr ⟨a, ha, by rw [hat]; rfl⟩)) w rfl

theorem checkNextArg_argsOK {d : CmdDef} (hd : defSafe d = true) {ld : List Bytes} {st st' : CState} {t : ArgType}
    {v : AVal} {add ce : Bool} {pl : Placement} (hok : ArgsOK d st)
    (h : checkNextArg d ld st t v add ce = .ok (some (st', pl))) : ArgsOK d st' := by
  intro hany
  obtain ⟨a, hargs, hat, hreq⟩ := single_testlist d hd hany
  have hall := hok hany
  cases (checkNextArg_ok h).2 with
  | extra => exact hall
  | nothing => exact hall
  | slot _ hsplit _ hit =>
    -- the only slot is the test list
    have := List.mem_of_drop_eq hsplit
    rw [hargs, List.mem_singleton] at this
    subst this
    cases hit with
    | testlistAdd _ _ _ _ happ => exact appendTest_tests hall happ
    | testlistSkip => exact hall
    | required _ ht => exact absurd hat ht
    | optional hr => rw [hreq] at hr; cases hr

end ArgsSafe
