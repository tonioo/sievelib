import SieveModel.Model.Readback
import SieveModel.Lemmas.Bytes
/-! The loader's `replace(prefix, "")` on a line that starts with the prefix, (C11), and `plain`: the strings C19 reads back exactly. -/
namespace Readback

theorem removeAllAux_skip (pre : Bytes) : ∀ (x s : Bytes), removeAllAux pre x.length (x ++ s) = removeAllAux pre 0 s
  | [], _ => rfl
  | _ :: cs, s => removeAllAux_skip pre cs s

/-- `(pre + s).replace(pre, "") == s.replace(pre, "")` -/
theorem removeAll_prefix (pre s : Bytes) (hne : pre ≠ []) : removeAll pre (pre ++ s) = removeAll pre s := by
  cases pre with
  | nil => exact absurd rfl hne
  | cons p ps =>
    unfold removeAll
    rw [if_neg (by simp), if_neg (by simp), List.cons_append, removeAllAux, 
      if_pos (show B.startsWith (p :: (ps ++ s)) (p :: ps) = true from B.startsWith_append (p :: ps) s)]
    exact removeAllAux_skip (p :: ps) ps s

/-- looking up a recorded string argument -/
theorem arg_str {name : Bytes} {args extra : List Arg} {children : List Node} {comments : List Bytes} {k : String} {v : Bytes}
    (h : assocGet args k = some (.str k v)) : arg (.mk name args extra children comments) k = .ok (.s v) := by
  simp only [arg, Node.args, h, pvOf]

theorem extra_str {name : Bytes} {args extra : List Arg} {children : List Node} {comments : List Bytes} {k : String} {v : Bytes}
    (h : assocGet extra k = some (.str k v)) : Readback.extra (.mk name args extra children comments) k = .ok (.s v) := by
  simp only [Readback.extra, Node.extra, h, pvOf]

/-- no double quote, backslash or comma -/
def plain (v : Bytes) : Prop := ∀ c ∈ v, c ≠ 34 ∧ c ≠ 92 ∧ c ≠ 44
instance : DecidablePred plain := fun v => by unfold plain; infer_instance

end Readback
