import SieveModel.Lemmas.Effect
/-!
# The loaded-extension list changes only when a `require` command is completed

Step-level and trace-level facts about `PState.loaded` (C07).
-/
namespace Loaded
open Machine Args

/-- `e` is named by the `require` command that this `;` completes -/
def Origin (s : PState) (tok : Tok) (e : Bytes) : Prop :=
  tok.kind = .semicolon ∧ ∃ g rest, s.stack = g :: rest ∧ g.d.special = .require ∧
    e ∈ (capabilityArgs g.st.arguments).map (B.stripC 34)

variable {T : Table} {s s' : PState} {tok : Tok}

/-- (`rew = true → k ≠ .semicolon`: a token that is sent back is never `;` — used in `deliver_loaded`, where the second
    delivery starts from another state and must not be the one that completes a command) -/
theorem eff_loaded {text : Bytes} {k : TokKind} {rew : Bool} (h : Eff T s text k s' rew) :
    (s'.loaded = s.loaded ∧ (rew = true → k ≠ .semicolon)) ∨
    (rew = false ∧ k = .semicolon ∧ ∃ g rest, s.stack = g :: rest ∧ s'.loaded = completeCb g s.loaded) := by
  obtain ⟨hp, hc⟩ := h
  rw [(Closing.run_ctl hc).loaded]
  cases hp with
  | endCommand _ hst => exact .inr ⟨rfl, rfl, _, _, hst, rfl⟩
  | reassign _ hk => exact .inl ⟨rfl, fun _ h => by rw [h] at hk; simp at hk⟩
  | _ => exact .inl ⟨rfl, nofun⟩

theorem stepEff_loaded {rew : Bool} (h : StepEff T s tok s' rew) :
    (s'.loaded = s.loaded ∧ (rew = true → tok.kind ≠ .semicolon)) ∨
    (rew = false ∧ tok.kind = .semicolon ∧ ∃ g rest, s.stack = g :: rest ∧ s'.loaded = completeCb g s.loaded) := by
  cases h with
  | hash => exact .inl ⟨rfl, nofun⟩
  | skip => exact .inl ⟨rfl, nofun⟩
  | tok _ _ _ h => exact eff_loaded (s := { s with expected := none }) h

theorem deliver_loaded (T : Table) (s : PState) (tok : Tok) (s' : PState) (h : deliver T s tok = .ok s') :
    ∀ e ∈ s'.loaded, e ∈ s.loaded ∨ Origin s tok e := by
  have key : s'.loaded = s.loaded ∨
      (tok.kind = .semicolon ∧ ∃ g rest, s.stack = g :: rest ∧ s'.loaded = completeCb g s.loaded) := by
    obtain h | ⟨s1, h1, h2⟩ := deliver_eff h
    · exact (stepEff_loaded h).imp (·.1) (·.2)
    · obtain ⟨e1, hk⟩ | ⟨hr, _⟩ := stepEff_loaded h1
      · obtain ⟨e2, _⟩ | ⟨_, hk', _⟩ := stepEff_loaded h2
        · exact .inl (e2.trans e1)
        · exact absurd hk' (hk rfl)
      · cases hr
  intro e he
  obtain h | ⟨hk, g, rest, hst, hld⟩ := key
  · exact .inl (h ▸ he)
  · rw [hld] at he
    unfold completeCb at he
    split at he
    · rename_i hsp
      exact (mem_addExts.mp he).imp_right fun h1 => ⟨hk, g, rest, hst, hsp, h1⟩
    · exact .inl he

/-- **origin of every loaded extension**: after any token prefix, each name in the loaded list was either there at the
    start or is a capability argument of a `require` command completed by an earlier `;` of that prefix -/
theorem feed_loaded_origin (T : Table) (toks : List Tok) (s : PState) (n : Nat) (s' : PState) (m : Nat)
    (h : feed T toks s n = .done s' m) :
    ∀ e ∈ s'.loaded, e ∈ s.loaded ∨
      ∃ pre tok post sm k, toks = pre ++ tok :: post ∧ feed T pre s n = .done sm k ∧ Origin sm tok e := by
  induction toks generalizing s n with
  | nil => cases h; exact fun e he => .inl he
  | cons tok rest ih =>
    intro e he
    obtain ⟨s1, hd, h⟩ := feed_cons_done.mp h
    rcases ih s1 _ h e he with h1 | ⟨pre, tok', post, sm, k, hsplit, hfeed, horig⟩
    · exact (deliver_loaded T s tok s1 hd e h1).imp_right fun h2 => ⟨[], tok, rest, s, n, rfl, rfl, h2⟩
    · exact .inr ⟨tok :: pre, tok', post, sm, k, by rw [hsplit]; rfl, feed_cons_done.mpr ⟨s1, hd, hfeed⟩, horig⟩

end Loaded
