import SieveModel.Lemmas.Invariant
import SieveModel.Lemmas.Effect
import SieveModel.Lemmas.Gating
import SieveModel.Lemmas.Lex
/-!
# Every token step keeps the invariant and never raises

What an *accepted* token does to the invariant is a case analysis over `Machine.Eff` (`eff_inv`): the
direct effect leaves a state that satisfies `Mid` (`value_mid`, `test_mid`, `reassign_mid`), or the state that `[`
enters, or one that `up` is called in; `completion_mid`, `completion_list`, `up_nontest` and `up_test` say what the
closing operation makes of it.  That no call raises is a walk through the failing branches (`commandFn_sound`), and
asks much less: `check_next_arg`, `completion` and `up` raise nothing on a non-empty stack that satisfies `Chain`.
The token loop on top of both (`step_spec` … `parse_verdict`) adds that a token is not sent back twice (`Calm`).
-/
namespace Safe
open Machine Args ArgsSafe

theorem FrameOK.not_var {f : Frame} (h : FrameOK f) (hk : f.d.kind ≠ .test) : f.d.variableArgs = false :=
  Bool.eq_false_iff.mpr fun hv => hk ((cmdSafe_spec h.1).var hv).1

theorem Top.of_not_var {s : PState} {e} (h : topVar s.stack = false) : Top s e :=
  ⟨fun h' => (by rw [h] at h'; cases h'), fun h' => (by rw [h] at h'; cases h')⟩

theorem topVar_false_of_nontest (l : List Frame) (hch : Chain l)
    (h : ∀ g, l.head? = some g → g.d.kind ≠ .test) : topVar l = false := by
  cases l with
  | nil => rfl
  | cons g r => exact hch.head.not_var (h g rfl)

theorem inv_none (s2 : PState) (hch : Chain s2.stack) (hcs : s2.cstate = .none)
    (hhead : ∀ g, s2.stack.head? = some g → g.d.kind = .control ∧ Frame.complete g = true)
    (hlive : liveRcb s2.brackets ≤ cmds s2.stack) (hp : rps s2.brackets ≤ vars s2.stack) : Inv s2 :=
  ⟨⟨hch, fun _ => ⟨hhead, hlive⟩, fun h => (by rw [hcs] at h; cases h), fun h => (by rw [hcs] at h; cases h), hp⟩,
   .of_not_var (topVar_false_of_nontest _ hch fun g hg => by rw [(hhead g hg).1]; simp)⟩

theorem core_args (s2 : PState) (e : Option (List TokKind)) (hch : Chain s2.stack) (hcs : s2.cstate = .arguments)
    (hlive : liveRcb s2.brackets + 1 ≤ cmds s2.stack) (hp : rps s2.brackets ≤ vars s2.stack) : Core s2 e :=
  ⟨hch, fun h => (by rw [hcs] at h; cases h), fun _ => hlive, fun h => (by rw [hcs] at h; cases h), hp⟩

/-- the invariant in the list state: `[` was pushed on brackets that satisfied the bound of the `arguments` state
    (or `{` is what is expected: `else [` popped the `else`), and nothing is asked of `Top` -/
theorem inv_strl (s2 : PState) (hch : Chain s2.stack) (hcs : s2.cstate = .stringlist) {b0 : List TokKind}
    (hb : s2.brackets = .right_bracket :: b0) (h1 : 1 ≤ cmds s2.stack)
    (hlive : s2.expected = some [.left_cbracket] ∨ liveRcb b0 + 1 ≤ cmds s2.stack) (hp : rps b0 ≤ vars s2.stack)
    (he : topVar s2.stack = true → s2.expected ≠ some [.left_parenthesis]) : Inv s2 :=
  ⟨⟨hch, fun h => (by rw [hcs] at h; cases h), fun h => (by rw [hcs] at h; cases h), fun _ => ⟨h1, b0, hb, hlive⟩,
    by rw [hb]; simpa using hp⟩,
   ⟨fun h1 h2 => absurd h2 (he h1), fun _ h => (by rw [hcs] at h; cases h)⟩⟩

theorem Core.live_bound {s : PState} {e} (h : Core s e) (hc : s.cstate ≠ .none) :
    liveRcb s.brackets + 1 ≤ cmds s.stack := by
  cases hcs : s.cstate with
  | none => exact absurd hcs hc
  | arguments => exact h.cargs hcs
  | stringlist =>
    obtain ⟨h1, b0, hb, _⟩ := h.cstrl hcs
    rw [hb]; simpa using h1

theorem lower_nontest (g : Frame) (hok : FrameOK g) (hl : LowerOK g) (hk : g.d.kind ≠ .test) :
    g.d.kind = .control ∧ Frame.complete g = true := by
  refine ⟨?_, hl.done.resolve_left fun hv => by rw [hok.not_var hk] at hv; cases hv⟩
  have := hl.kind
  cases hkk : g.d.kind <;> simp [hkk] at hk this ⊢

/-- no second lexer rewind can come out of this state -/
def Calm (s : PState) : Prop :=
  s.cstate = .none ∨ ∀ g, s.stack.head? = some g → g.d.nonDet = false ∨ reassign g = none

theorem children_reject_scalar (d : CmdDef) (hd : cmdSafe d = true) (hk : d.kind ≠ .test) (hc : d.acceptChildren = true)
    (ld : List Bytes) (st : CState) (t : ArgType) (v : AVal) (add ce : Bool) (hok : StOK d st) (ht : t ≠ .test)
    (st' : CState) (pl : Placement) : checkNextArg d ld st t v add ce ≠ .ok (some (st', pl)) := by
  rcases ((cmdSafe_spec hd).block hc hk).2 with h | h
  · intro hcna
    unfold checkNextArg at hcna
    simp [h] at hcna
  · exact host_rejects_scalar d hd h ld st t v add ce hok ht st' pl

/-- a state of the `arguments` kind in which the completion check is about to run: the current command has
    just taken an argument, and is a test or a command without block -/
structure Mid (s : PState) : Prop where
  inv : Inv s
  cs : s.cstate = .arguments
  leaf : ∀ f, s.stack.head? = some f → f.d.kind = .test ∨ f.d.acceptChildren = false

theorem Mid.replace_top {f f' : Frame} {rest : List Frame} (hch : Chain (f :: rest)) (hok : FrameOK f')
    (hd : f'.d = f.d) (ha : f'.attach = f.attach) (hnv : f.d.variableArgs = false)
    (hleaf : f.d.kind = .test ∨ f.d.acceptChildren = false) {m : PState} (hm : m.stack = f' :: rest)
    (hcs : m.cstate = .arguments) (hlive : liveRcb m.brackets + 1 ≤ cmds (f :: rest))
    (hpar : rps m.brackets ≤ vars (f :: rest)) : Mid m := by
  refine ⟨⟨core_args m _ (hm ▸ hch.replace_top hok hd ha) hcs ?_ ?_, .of_not_var (by rw [hm]; exact (congrArg CmdDef.variableArgs hd).trans hnv)⟩, hcs,
    fun g hg => ?_⟩
  · rwa [hm, cmds_congr hd]
  · rwa [hm, vars_congr hd]
  · rw [hm] at hg; cases hg; rw [hd]; exact hleaf

/-- a string, number, tag or string list was taken: not by a test list, nor by the owner of a block -/
theorem value_mid {f : Frame} {rest : List Frame} (hch : Chain (f :: rest)) {t : ArgType} {v : AVal}
    (ht : t ≠ .test) {ld : List Bytes} {st' : CState} {pl : Placement}
    (h : checkNextArg f.d ld f.st t v = .ok (some (st', pl))) {m : PState}
    (hm : m.stack = { f with st := st' } :: rest) (hcs : m.cstate = .arguments)
    (hlive : liveRcb m.brackets + 1 ≤ cmds (f :: rest)) (hpar : rps m.brackets ≤ vars (f :: rest)) : Mid m := by
  have hok := hch.head
  refine .replace_top (f' := { f with st := st' }) hch ⟨hok.1, hok.2.step hok.1 h⟩ rfl rfl
    (Bool.eq_false_iff.mpr fun hv => ?_) ?_ hm hcs hlive hpar
  · exact host_rejects_scalar f.d hok.1 (var_isHost _ hok.1 hv) ld f.st t v true true hok.2 ht st' pl h
  · by_cases hk : f.d.kind = .test
    · exact .inl hk
    · exact .inr (Bool.eq_false_iff.mpr fun hac =>
        children_reject_scalar f.d hok.1 hk hac ld f.st t v true true hok.2 ht st' pl h)

/-- a test was taken (as a placeholder) by the current command, which is then a complete command with one test slot
    or a test list, and is pushed -/
theorem Chain.push_test {f : Frame} {rest : List Frame} (hch : Chain (f :: rest)) {d : CmdDef} (hd : cmdSafe d = true)
    (hdk : d.kind = .test) {ld : List Bytes} {n : Node} {st' : CState} {pl : Placement}
    (h : checkNextArg f.d ld f.st .test (.test n) = .ok (some (st', pl))) :
    Chain ({ d := d, attach := .place pl } :: { f with st := st' } :: rest) := by
  have hok := hch.head
  obtain ⟨hhost, hdone, hpl⟩ := test_accept_host f.d hok.1 ld f.st _ true true hok.2 st' pl h
  obtain ⟨_, _, _, hka, hnd, _⟩ := (cmdSafe_spec hok.1).host hhost
  exact ⟨⟨hd, StOK.init d⟩, fun pl' h => (by cases h; exact hpl), ⟨hdone, hnd, hka⟩, fun h => absurd hdk h,
    hch.replace_top ⟨hok.1, hok.2.step hok.1 h⟩ rfl rfl⟩

theorem test_mid {f : Frame} {rest : List Frame} (hch : Chain (f :: rest)) {d : CmdDef} (hd : cmdSafe d = true)
    (hdk : d.kind = .test) {ld : List Bytes} {n : Node} {st' : CState} {pl : Placement}
    (h : checkNextArg f.d ld f.st .test (.test n) = .ok (some (st', pl))) {m : PState}
    (hm : m.stack = { d := d, attach := .place pl } :: { f with st := st' } :: rest) (hcs : m.cstate = .arguments)
    (hex : m.expected = d.expectedFirst)
    (hlive : liveRcb m.brackets + 1 ≤ cmds (f :: rest)) (hpar : rps m.brackets ≤ vars (f :: rest)) : Mid m := by
  have hvr : vars m.stack = (if d.variableArgs then 1 else 0) + vars (f :: rest) := by
    rw [hm, vars_cons, vars_congr (f' := { f with st := st' }) (f := f) rfl]
  refine ⟨⟨core_args m _ (hm ▸ hch.push_test hd hdk h) hcs ?_ (by omega), fun htv _ => ?_, fun htv _ => ?_⟩, hcs,
    fun g hg => ?_⟩
  · rwa [hm, cmds_cons_test hdk, cmds_congr (f' := { f with st := st' }) (f := f) rfl]
  · rw [hm] at htv
    rw [hvr, show d.variableArgs = true from htv]; simp; omega
  · rw [hm] at htv
    rw [hex]; exact .inl ((cmdSafe_spec hd).var htv).2
  · rw [hm] at hg; cases hg; exact .inl hdk

theorem reassign_mid {f f' : Frame} {rest : List Frame} (hch : Chain (f :: rest)) (hnd : f.d.nonDet = true)
    (h : reassign f = some f') {m : PState} (hm : m.stack = f' :: rest) (hcs : m.cstate = .arguments)
    (hlive : liveRcb m.brackets + 1 ≤ cmds (f :: rest)) (hpar : rps m.brackets ≤ vars (f :: rest)) : Mid m := by
  have hok' := reassign_ok f f' hch.head h
  obtain ⟨_, a, _, _, rfl⟩ := reassign_some h
  refine .replace_top hch hok' rfl rfl (Bool.eq_false_iff.mpr fun hv => ?_)
    (.inl ((cmdSafe_spec hch.head.1).nondet (Or.inl hnd)).1) hm hcs hlive hpar
  obtain ⟨_, _, _, _, hn, _⟩ := (cmdSafe_spec hch.head.1).host (var_isHost _ hch.head.1 hv)
  rw [hn] at hnd; cases hnd

/-- `__up()` out of a frame that is not a test: its block or statement ends -/
theorem up_nontest {s s2 : PState} {f : Frame} {rest : List Frame} (hu : up s = .ok s2) (hs : s.stack = f :: rest)
    (hch : Chain s.stack) (hk : f.d.kind ≠ .test) (hcs : s.cstate = .none)
    (hlive : liveRcb s.brackets + 1 ≤ cmds s.stack) (hpar : rps s.brackets ≤ vars s.stack) : Inv s2 := by
  obtain ⟨_, _, hs', hp⟩ := up_ok hu
  have hst2 := hp.stack
  have he := hp.frame
  cases hs.symm.trans hs'
  rw [hs] at hch hlive hpar
  rw [cmds_cons_cmd hk] at hlive
  rw [vars_cons_fixed (hch.head.not_var hk)] at hpar
  obtain ⟨hch2, hcmds, hvars, hdefs, hlow, -⟩ := upLoop_spec f rest hch
  have hbr : s2.brackets = s.brackets := by rw [he]
  refine inv_none s2 (hst2 ▸ hch2) (by rw [he]; exact hcs) (fun g hg => ?_) (by rw [hbr, hst2, hcmds]; omega)
    (by rw [hbr, hst2, hvars]; exact hpar)
  -- the frames below are not tests either
  rw [hst2] at hg
  have hmem := List.mem_of_mem_head? hg
  obtain ⟨p, hp, hd⟩ := hdefs g hmem
  exact lower_nontest g (hch2.all g hmem) (hlow g hg) (hd ▸ hch.below_nontest hk p hp)

/-- `__up()` out of a test, at the `)` that ends its test list -/
theorem up_test {s s2 : PState} {f : Frame} {rest : List Frame} (hu : up s = .ok s2) (hs : s.stack = f :: rest)
    (hch : Chain s.stack) (hk : f.d.kind = .test) :
    Chain s2.stack ∧ cmds s2.stack = cmds s.stack ∧ vars s.stack ≤ vars s2.stack + 1 ∧
      (topVar s2.stack = true → s2.expected = some [.comma, .right_parenthesis]) := by
  obtain ⟨_, _, hs', hp⟩ := up_ok hu
  have hst2 := hp.stack
  have hexp := hp.expected
  cases hs.symm.trans hs'
  rw [hs] at hch ⊢
  rw [hst2, hexp]
  obtain ⟨hch2, hcmds, hvars, -, -, htop⟩ := upLoop_spec f rest hch
  refine ⟨hch2, by rw [hcmds, cmds_cons_test hk], ?_, fun htv => by rw [htop, htv]; rfl⟩
  rw [hvars, vars_cons]; split <;> omega

theorem completion_cons {s : PState} {f : Frame} {rest : List Frame} (hs : s.stack = f :: rest) (ts : Bool) :
    completion s ts =
      if !Frame.complete f then .ok (true, s)
      else if f.d.kind == .action || (f.d.kind == .control && !f.d.acceptChildren) then
        .ok (true, if ts then { s with expected := some [.semicolon] } else s)
      else
        match complLoop s.loaded f rest with
        | .error e => .error e
        | .ok o =>
          .ok (o.ok, { s with stack := o.stack,
                              expected := match o.expected with | some e => some e | none => s.expected }) := by
  unfold completion
  split
  · rename_i h; rw [hs] at h; cases h
  · rename_i f' rest' h; rw [hs] at h; cases h; rfl

theorem completion_no_crash {s : PState} (hch : Chain s.stack) (hne : s.stack ≠ []) (ts : Bool) (w : String) :
    completion s ts ≠ .error (.crash w) := by
  fun_cases completion s ts with
  | case1 hs => exact absurd hs hne
  | case2 | case3 | case5 => nofun
  | case4 f rest hs _ _ e he => rintro ⟨⟩; exact complLoop_no_crash _ f rest (hs ▸ hch) w he

/-- completion entered with a test on top -/
theorem completion_test {s s' : PState} {f : Frame} {rest : List Frame} {ts b : Bool} (hs : s.stack = f :: rest)
    (hch : Chain s.stack) (hf : f.d.kind = .test) (h : completion s ts = .ok (b, s')) :
    Chain s'.stack ∧ cmds s'.stack = cmds s.stack ∧ vars s'.stack = vars s.stack ∧
    ((s'.stack = s.stack ∧ s'.expected = s.expected) ∨
     ((∀ g, s'.stack.head? = some g → g.d.nonDet = false) ∧
      (b = true → topVar s'.stack = true → s'.expected = some [.comma, .right_parenthesis]))) := by
  rw [completion_cons hs] at h
  by_cases hc : Frame.complete f = true
  · have hna : (f.d.kind == .action || (f.d.kind == .control && !f.d.acceptChildren)) = false := by simp [hf]
    simp only [hc, hna, Bool.not_true, Bool.false_eq_true, if_false] at h
    rw [hs] at hch
    cases hcl : complLoop s.loaded f rest with
    | error e => rw [hcl] at h; cases h
    | ok o =>
      rw [hcl] at h; cases h
      obtain ⟨hch2, hcmds, hvars, hcalm, hexp⟩ := complLoop_spec s.loaded f rest hch hf o hcl
      refine ⟨hch2, ?_, ?_, Or.inr ⟨hcalm, fun hbt htv => ?_⟩⟩
      · exact hcmds.trans (hs ▸ (cmds_cons_test hf rest).symm)
      · exact hvars.trans (hs ▸ (vars_cons_fixed (complete_not_var _ hc) rest).symm)
      · show (match o.expected with | some e => some e | none => s.expected) = _
        rw [hexp hbt htv]
  · simp only [hc, Bool.not_false, if_true] at h
    cases h
    exact ⟨hch, rfl, rfl, Or.inl ⟨rfl, rfl⟩⟩

/-- completion entered with a command (not a test) on top: nothing is popped — unless it is a complete control
    command that owns a block and stands in a block itself (`else [`): that one is popped and `{` announced -/
theorem completion_cmd {s : PState} {f : Frame} {rest : List Frame} (hs : s.stack = f :: rest) (hch : Chain s.stack)
    (hk : f.d.kind ≠ .test) (ts : Bool) :
    (∃ e, completion s ts = .ok (true, { s with expected := e }) ∧ (e = s.expected ∨ e = some [.semicolon])) ∨
    (f.d.acceptChildren = true ∧ ∃ p r, rest = p :: r ∧ Chain (plug p f.attach (Frame.toNode f) :: r) ∧
      (plug p f.attach (Frame.toNode f)).d.kind = .control ∧
      completion s ts = .ok (true, { s with stack := plug p f.attach (Frame.toNode f) :: r,
                                            expected := some [.left_cbracket] })) := by
  rw [completion_cons hs]
  rw [hs] at hch
  by_cases hcm : Frame.complete f = true
  case neg => exact .inl ⟨s.expected, by rw [if_pos (by simpa using hcm)], .inl rfl⟩
  by_cases hac : f.d.acceptChildren = true
  case neg =>
    have : (f.d.kind == .action || (f.d.kind == .control && !f.d.acceptChildren)) = true := by
      cases hkk : f.d.kind <;> simp [hkk, hac] at hk ⊢
    rw [if_neg (by simpa using hcm), if_pos this]
    cases ts
    · exact .inl ⟨s.expected, rfl, .inl rfl⟩
    · exact .inl ⟨_, rfl, .inr rfl⟩
  have hfc : f.d.kind = .control := ((cmdSafe_spec hch.head.1).block hac hk).1
  rw [if_neg (by simpa using hcm), if_neg (by simp [hfc, hac])]
  cases rest with
  | nil => exact .inl ⟨s.expected, by simp only [complLoop, ← hs], .inl rfl⟩
  | cons p r =>
    -- what is below a command is a complete control command: the loop stops there
    have hchp : Chain (plug p f.attach (Frame.toNode f) :: r) := hch.pop_plug _
    obtain ⟨hpc, hpcomp⟩ := lower_nontest _ hchp.head (plug_lower _ _ _ hch.2.2.1)
      (by rw [plug_d]; exact hch.below_nontest hk p List.mem_cons_self)
    refine .inr ⟨hac, p, r, rfl, hchp, hpc, ?_⟩
    unfold complLoop
    simp only [hpc, hpcomp, beq_self_eq_true, Bool.true_or, if_true]

theorem completion_mid {s s' : PState} {ts : Bool} (hc : completion s ts = .ok (true, s')) (h : Mid s) :
    Inv s' ∧ ((∀ f, s.stack.head? = some f → f.d.nonDet = false ∨ reassign f = none) → Calm s') := by
  obtain ⟨⟨hcore, htop⟩, hcs, hleaf⟩ := h
  have hch := hcore.chain
  have hlive := hcore.cargs hcs
  have hpar := hcore.paren
  obtain ⟨f, rest, hs⟩ := List.exists_cons_of_ne_nil (hcore.nonempty (by rw [hcs]; simp))
  by_cases hft : f.d.kind = .test
  · obtain ⟨j3, j4, j5, j6⟩ := completion_test hs hch hft hc
    have heq := (completion_ok hc).1
    have hcs' : s'.cstate = .arguments := by rw [heq]; exact hcs
    have hbr : s'.brackets = s.brackets := by rw [heq]
    refine ⟨⟨core_args s' _ j3 hcs' (by rw [hbr, j4]; exact hlive) (by rw [hbr, j5]; exact hpar), ?_⟩,
      fun hcalm => .inr ?_⟩
    · rcases j6 with ⟨k1, k2⟩ | ⟨_, k2⟩
      · exact ⟨fun h1 h2 => (by rw [k1] at h1 ⊢; rw [k2] at h2; rw [hbr]; exact htop.open_ h1 h2),
          fun h1 _ => (by rw [k1] at h1; rw [k2]; exact htop.topv h1 hcs)⟩
      · exact ⟨fun h1 h2 => (by rw [k2 rfl h1] at h2; simp at h2), fun h1 _ => .inr (.inr (k2 rfl h1))⟩
    · rcases j6 with ⟨k1, _⟩ | ⟨k1, _⟩
      · rw [k1]; exact hcalm
      · intro g hg; exact .inl (k1 g hg)
  · have hnac := (hleaf f (by rw [hs]; rfl)).resolve_left hft
    obtain ⟨e, hcomp, -⟩ | ⟨hac, -⟩ := completion_cmd hs hch hft ts
    · cases hcomp.symm.trans hc
      have htv : topVar s.stack = false := by rw [hs]; exact (hs ▸ hch).head.not_var hft
      exact ⟨⟨core_args _ _ hch hcs hlive hpar, .of_not_var htv⟩, fun hcalm => .inr hcalm⟩
    · rw [hnac] at hac; cases hac

/-- `[` met in the `arguments` state: the list state is entered, then the completion check runs.  When the
    current command is a complete control that owns a block (`else [`), the check pops it and announces `{` -/
theorem completion_list {s s' : PState} {e : Option (List TokKind)} {f : Frame} {rest : List Frame}
    (hs : s.stack = f :: rest) (hcore : Core s e) (hcs : s.cstate = .arguments)
    (h : completion (openList s) false = .ok (true, s')) : Inv s' := by
  have g1 : (openList s).stack = s.stack := rfl
  have g2 : (openList s).cstate = .stringlist := rfl
  have g3 : (openList s).brackets = .right_bracket :: s.brackets := rfl
  have g4 : (openList s).expected = some [.string] := rfl
  -- only these four fields of `openList s` matter; as a variable it is not unfolded by what follows
  generalize openList s = sb at g1 g2 g3 g4 h
  have hlive := hcore.cargs hcs
  have hpar := hcore.paren
  have hch := hcore.chain
  have hsb : sb.stack = f :: rest := g1.trans hs
  -- any state with the same stack measures, the list bracket on top and the list state
  have mk : ∀ s3 : PState, s3.cstate = .stringlist → s3.brackets = .right_bracket :: s.brackets →
      Chain s3.stack → cmds s3.stack = cmds s.stack → vars s3.stack = vars s.stack →
      (topVar s3.stack = true → s3.expected ≠ some [.left_parenthesis]) → Inv s3 :=
    fun s3 c1 c2 c3 c4 c5 c6 =>
      inv_strl s3 c3 c1 c2 (by omega) (.inr (by omega)) (by omega) c6
  by_cases hft : f.d.kind = .test
  · obtain ⟨j3, j4, j5, j6⟩ := completion_test hsb (g1 ▸ hch) hft h
    have heq := (completion_ok h).1
    refine mk s' (by rw [heq]; exact g2) (by rw [heq]; exact g3) j3 (by rw [j4, g1]) (by rw [j5, g1]) fun htv => ?_
    rcases j6 with ⟨_, k2⟩ | ⟨_, k2⟩
    · rw [k2, g4]; simp
    · rw [k2 rfl htv]; simp
  · obtain ⟨ex, hcomp, hex⟩ | ⟨-, p, r, rfl, hchp, hpc, hcomp⟩ := completion_cmd hsb (g1 ▸ hch) hft false
    · cases hcomp.symm.trans h
      refine mk _ g2 g3 (g1 ▸ hch) (by rw [← g1]) (by rw [← g1]) fun _ => ?_
      rcases hex with rfl | rfl
      · rw [g4]; simp
      · simp
    · cases hcomp.symm.trans h
      have hpv : p.d.variableArgs = false := plug_d p _ _ ▸ (hchp.head.not_var (by rw [hpc]; simp))
      rw [hs, vars_cons_fixed ((hs ▸ hch).head.not_var hft), vars_cons_fixed hpv] at hpar
      refine inv_strl _ hchp g2 g3 ?_ (.inl rfl) ?_ fun _ => (by simp)
      · exact Nat.le_trans (Nat.le_add_left 1 _) (Nat.le_of_eq (cmds_cons_cmd (by rw [hpc]; simp) r).symm)
      · exact Nat.le_trans hpar (Nat.le_of_eq (vars_cons_fixed (plug_d p _ _ ▸ hpv) r).symm)

theorem valueType_ne_test {k : TokKind} {t : ArgType} (h : valueType k = some t) : t ≠ .test := by
  cases k <;> cases h <;> nofun

/-- in the list state, unless `{` is what is expected (`else [` popped the `else`) -/
theorem Core.strl_bound {s : PState} {e} (h : Core s e) (hcs : s.cstate = .stringlist) {k : TokKind}
    (hk : ∀ ex, e = some ex → k ∈ ex) (hne : k ≠ .left_cbracket) :
    ∃ b0, s.brackets = .right_bracket :: b0 ∧ liveRcb b0 + 1 ≤ cmds s.stack ∧ rps b0 ≤ vars s.stack := by
  obtain ⟨_, b0, hb, hdis⟩ := h.cstrl hcs
  refine ⟨b0, hb, hdis.resolve_left fun he => hne (by simpa using hk _ he), ?_⟩
  have := h.paren
  rwa [hb, rps_rb] at this

/-- an accepted token keeps the invariant, and after a rewind the state is calm: one case per `Direct` constructor, each
    producing the state its closing operation is called in and handing it to the lemma about that operation -/
theorem eff_inv {T : Table} (hT : TableSafe T) {s s' : PState} {e : Option (List TokKind)} {k : TokKind}
    {text : Bytes} {rew : Bool} (hcore : Core s e) (htop : Top s e) (hk : ∀ ex, e = some ex → k ∈ ex)
    (h : Eff T s text k s' rew) : Inv s' ∧ (rew = true → Calm s') := by
  have hch := hcore.chain
  have hpar := hcore.paren
  have fresh : ∀ {d}, getCommand T s.loaded text = .ok d → ∀ a, FrameOK { d := d, attach := a } :=
    fun hget a => ⟨hT _ (Table.lookup_mem (Gating.getCommand_ok.mp hget).1), StOK.init _⟩
  -- a command (not a test) starts, at top level or inside the block of a complete control command
  have start : ∀ {d : CmdDef} (a : Attach), getCommand T s.loaded text = .ok d → d.kind ≠ .test →
      (∀ pl, a ≠ .place pl) → s.cstate = .none → ∀ ex,
      Inv { s with expected := ex, stack := { d := d, attach := a } :: s.stack, cstate := .arguments } := by
    intro d a hget hdk ha hcs ex
    obtain ⟨hhead, hlive⟩ := hcore.cnone hcs
    have hok := fresh hget a
    refine ⟨core_args _ _ ?_ rfl ?_ ?_, .of_not_var (hok.not_var hdk)⟩
    · cases hst : s.stack with
      | nil => exact ⟨hok, hdk⟩
      | cons f rest =>
        obtain ⟨hfc, hfcomp⟩ := hhead f (by rw [hst]; rfl)
        have hfk : f.d.kind ≠ .test := by rw [hfc]; simp
        rw [hst] at hch
        exact ⟨hok, fun pl h => absurd h (ha pl),
          ⟨.inr hfcomp, Bool.eq_false_iff.mpr fun hnd => hfk ((cmdSafe_spec hch.head.1).nondet (.inl hnd)).1,
            by rw [hfc]; simp⟩, fun _ => hfk, hch⟩
    · show liveRcb s.brackets + 1 ≤ cmds (_ :: s.stack)
      rw [cmds_cons_cmd hdk]; omega
    · show rps s.brackets ≤ vars (_ :: s.stack)
      rw [vars_cons_fixed (hok.not_var hdk)]; exact hpar
  -- inside `[ … ]` only the list and what is expected next change
  have strl : ∀ {m : PState}, s.cstate = .stringlist → k ≠ .left_cbracket → m.stack = s.stack → m.cstate = s.cstate →
      m.brackets = s.brackets → m.expected ≠ some [.left_parenthesis] → Inv m := fun {m} hl hne m1 m2 m3 m4 => by
    obtain ⟨b0, hb, h1, h2⟩ := hcore.strl_bound hl hk hne
    rw [← m1] at hch h1 h2
    exact inv_strl m hch (m2.trans hl) (m3.trans hb) (by omega) (.inr h1) h2 fun _ => m4
  obtain ⟨hp, hc⟩ := h
  cases hp with
  | closeBlock hcs hb =>
    obtain ⟨hhead, hlive⟩ := hcore.cnone hcs
    rw [hb] at hlive hpar
    simp only [liveRcb_rcb, rps_rcb] at hlive hpar
    cases hst : s.stack with
    | nil => rw [hst] at hlive; simp [cmds] at hlive
    | cons f rest =>
      exact ⟨up_nontest hc hst hch (by rw [(hhead f (by rw [hst]; rfl)).1]; simp) hcs hlive hpar, nofun⟩
  | @command d hcs hget hdk hnil hfo =>
    cases hc
    have := start .top hget hdk (fun _ h => (by cases h)) hcs (announce s d).expected
    rw [hnil] at this
    exact ⟨this, nofun⟩
  | @child d f rest hcs hget hdk hst hac hfo =>
    cases hc
    have := start .child hget hdk (fun _ h => (by cases h)) hcs (announce s d).expected
    rw [hst] at this
    exact ⟨this, nofun⟩
  | item hl hv => cases hc; exact ⟨strl hl (by simp) rfl rfl rfl (by simp), nofun⟩
  | itemComma hl => cases hc; exact ⟨strl hl (by simp) rfl rfl rfl (by simp), nofun⟩
  | closeList hl hb hst hcna =>
    obtain ⟨b0, hb0, h1, h2⟩ := hcore.strl_bound hl hk (by simp)
    cases hb.symm.trans hb0
    rw [hst] at hch h1 h2
    exact ⟨(completion_mid hc (value_mid hch (by simp) hcna rfl rfl h1 h2)).1, nofun⟩
  | test hcs hst hget hdk hcna =>
    have hlive := hcore.cargs hcs
    rw [hst] at hch hlive hpar
    exact ⟨(completion_mid hc (test_mid hch (fresh hget .top).1 hdk hcna rfl hcs rfl hlive hpar)).1, nofun⟩
  | openTests hcs hst hv =>
    cases hc
    have htv : topVar s.stack = true := by rw [hst]; exact hv
    have he : e = some [.left_parenthesis] := by
      rcases htop.topv htv hcs with h | h | h
      · exact h
      · simpa using hk _ h
      · simpa using hk _ h
    have := htop.open_ htv he
    exact ⟨⟨core_args _ _ hch hcs (hcore.cargs hcs) (by simpa using this),
      (fun _ h => nomatch h), fun _ _ => .inr (.inl rfl)⟩, nofun⟩
  | testComma hcs hst hv =>
    cases hc
    exact ⟨⟨core_args _ _ hch hcs (hcore.cargs hcs) hpar, (fun _ h => nomatch h), fun _ _ => .inr (.inl rfl)⟩, nofun⟩
  | closeTests hcs hb =>
    have hn : s.cstate ≠ .none := by rw [hcs]; nofun
    have hlive := hcore.cargs hcs
    rw [hb] at hlive hpar
    simp only [liveRcb_rp, rps_rp] at hlive hpar
    obtain ⟨f, rest, hst⟩ := List.exists_cons_of_ne_nil (hcore.nonempty hn)
    obtain ⟨u1, u2, u3, u4⟩ := up_test hc hst hch ((hst ▸ hch).top_test (by rw [← hst]; omega))
    obtain ⟨h1, -, h3, -⟩ := Closing.run_ctl hc
    dsimp only at u2 u3 h1 h3
    exact ⟨⟨core_args _ _ u1 (h1.trans hcs) (by rw [h3]; omega) (by rw [h3]; omega),
      (fun htv he => (by rw [u4 htv] at he; cases he)), fun htv _ => .inr (.inr (u4 htv))⟩, nofun⟩
  | value hcs hkt hv hst hcna =>
    have hlive := hcore.cargs hcs
    rw [hst] at hch hlive hpar
    exact ⟨(completion_mid hc (value_mid hch (valueType_ne_test hkt) hcna rfl hcs hlive hpar)).1, nofun⟩
  | openList hcs =>
    obtain ⟨f, rest, hst⟩ := List.exists_cons_of_ne_nil (hcore.nonempty (by rw [hcs]; nofun))
    exact ⟨completion_list hst hcore hcs hc, nofun⟩
  | reassign hcs hkk hst hnd hre =>
    have hlive := hcore.cargs hcs
    rw [hst] at hch hlive hpar
    obtain ⟨i1, i2⟩ := completion_mid hc (reassign_mid hch hnd hre rfl hcs hlive hpar)
    exact ⟨i1, fun _ => i2 fun g hg => (by cases hg; exact .inr (reassign_once _ _ hre))⟩
  | openBlock hn hst hfc hac hcomp =>
    cases hc
    refine ⟨inv_none _ hch rfl (fun g hg => ?_) (hcore.live_bound hn) hpar, nofun⟩
    rw [show _ = s.stack from rfl, hst] at hg; cases hg; exact ⟨hfc, hcomp⟩
  | endCommand hn hst hfk hac => exact ⟨up_nontest hc hst hch hfk rfl (hcore.live_bound hn) hpar, nofun⟩

/-- no unexpected exception; and a declined token leaves a current command for `closeCommand` to look at -/
def Sound (r : FnResult) : Prop :=
  match r with
  | .crash _ => False
  | .ret false s' _ => s'.stack ≠ []
  | _ => True

theorem sound_ofCmdErr {rew : Bool} {e : CmdErr} (h : ∀ w, e ≠ .crash w) : Sound (ofCmdErr rew e) := by
  cases e with
  | crash w => exact h w rfl
  | _ => trivial

theorem sound_complThen {s : PState} {ts rew : Bool} (h : ∀ w, completion s ts ≠ .error (.crash w)) :
    Sound (complThen s ts rew) := by
  fun_cases complThen s ts rew with
  | case1 e he => exact sound_ofCmdErr fun w hw => h w (hw ▸ he)
  | case2 b s' hc =>
    cases b
    · obtain ⟨g, r, hg, _⟩ := completion_false hc
      exact fun h => (by rw [hg] at h; cases h)
    · trivial

theorem sound_chain {s : PState} {ts rew : Bool} (hch : Chain s.stack) (hne : s.stack ≠ []) :
    Sound (complThen s ts rew) :=
  sound_complThen (completion_no_crash hch hne ts)

/-- `check_next_arg` on the current command: no unexpected exception, `False` leaves the stack alone, `True` leaves a
    stack that satisfies `Chain` -/
theorem sound_curCheck {s : PState} (hch : Chain s.stack) (hne : s.stack ≠ []) {t : ArgType} {v : AVal}
    (hc : Consistent t v) :
    (∀ e, curCheck s t v = .error e → Sound (ofCmdErr false e)) ∧
    (∀ s2 pl, curCheck s t v = .ok (false, s2, pl) → Sound (.ret false s2 false)) ∧
    ∀ s2 pl, curCheck s t v = .ok (true, s2, pl) → Chain s2.stack ∧ s2.stack ≠ [] := by
  refine ⟨fun e he => sound_ofCmdErr fun w hw => ?_, fun s2 pl h => ?_, fun s2 pl h => ?_⟩
  · subst hw
    revert he
    fun_cases curCheck s t v with
    | case1 hs => exact absurd hs hne
    | case2 f rest hst e hcna =>
      have hok := (hst ▸ hch : Chain (f :: _)).head
      rintro ⟨⟩
      exact checkNextArg_no_crash (cmdSafe_spec hok.1).defs hok.2.args hc _ hcna
    | case3 | case4 => nofun
  · obtain ⟨_, _, _, ⟨_, rfl, _⟩ | ⟨hb, _⟩⟩ := curCheck_ok h
    · exact hne
    · cases hb
  · obtain ⟨f, rest, hst, ⟨hb, _⟩ | ⟨_, st', hcna, rfl⟩⟩ := curCheck_ok h
    · cases hb
    · rw [hst] at hch
      exact ⟨hch.replace_top ⟨hch.head.1, hch.head.2.step hch.head.1 hcna⟩ rfl rfl, nofun⟩

theorem stringlistFn_sound {s : PState} (k : TokKind) (text : Bytes) (hch : Chain s.stack) (hne : s.stack ≠ []) :
    Sound (stringlistFn s k text) := by
  fun_cases stringlistFn s k text with
  | case1 | case2 | case3 => trivial
  | case4 hp => simp only [hp]; trivial
  | case5 s1 e he hp =>
    simp only [hp, he]
    obtain ⟨b, -, rfl⟩ := popBracket_some hp
    exact (sound_curCheck (s := { s with brackets := b }) hch hne (consistent_strs _)).1 e he
  | case6 s1 s2 pl hcc hp =>
    simp only [hp, hcc]
    obtain ⟨b, -, rfl⟩ := popBracket_some hp
    exact (sound_curCheck (s := { s with brackets := b }) hch hne (consistent_strs _)).2.1 _ _ hcc
  | case7 s1 s2 pl hcc hp =>
    simp only [hp, hcc]
    obtain ⟨b, -, rfl⟩ := popBracket_some hp
    obtain ⟨h1, h2⟩ := (sound_curCheck (s := { s with brackets := b }) hch hne (consistent_strs _)).2.2 _ _ hcc
    exact sound_chain h1 h2
  | case8 => exact hne

theorem thenCompl_ofCmdErr (rew : Bool) (e : CmdErr) : thenCompl (ofCmdErr rew e) = ofCmdErr rew e := by
  cases e <;> rfl

theorem argThenCompl_sound {s : PState} (k : TokKind) (text : Bytes) (hch : Chain s.stack) (hne : s.stack ≠ []) :
    Sound (argThenCompl s k text) := by
  have offered : ∀ t v, Consistent t v → Sound (thenCompl (offer s t v)) := by
    intro t v hc
    fun_cases offer s t v with
    | case1 e he => rw [thenCompl_ofCmdErr]; exact (sound_curCheck hch hne hc).1 e he
    | case2 b s' pl hcc =>
      cases b
      · exact (sound_curCheck hch hne hc).2.1 _ _ hcc
      · obtain ⟨h1, h2⟩ := (sound_curCheck hch hne hc).2.2 _ _ hcc
        exact sound_chain h1 h2
  have reassigned : Sound (thenCompl (tryReassign s)) := by
    fun_cases tryReassign s with
    | case1 hs => exact hne hs
    | case2 | case4 => exact hne
    | case3 f rest hst hnd f' hre =>
      rw [show withTop s f' = { s with stack := f' :: rest } by simp only [withTop, hst]]
      rw [hst] at hch
      have hok := reassign_ok f f' hch.head hre
      obtain ⟨_, _, _, _, rfl⟩ := reassign_some hre
      exact sound_chain (hch.replace_top hok rfl rfl) nofun
  unfold argThenCompl
  fun_cases argumentFn s k text with
  | case1 | case3 => trivial
  | case2 | case4 | case5 | case6 => exact offered _ _ trivial
  | case7 => exact sound_chain (s := openList s) hch hne
  | case8 | case9 | case10 => exact reassigned
  | case11 => exact hne

theorem argumentsFn_sound {T : Table} (hT : TableSafe T) {s : PState} (k : TokKind) (text : Bytes)
    (hch : Chain s.stack) (hne : s.stack ≠ []) : Sound (argumentsFn T s k text) := by
  have hrest := argThenCompl_sound k text hch hne
  fun_cases argumentsFn T s k text with
  | case1 k hs => exact hne hs
  | case2 f rest hst =>
    fun_cases pushTest T s text with
    | case1 | case2 => trivial
    | case3 d _ _ e he => exact (sound_curCheck hch hne (consistent_test_node _)).1 e he
    | case4 d _ _ s1 pl hcc => exact (sound_curCheck hch hne (consistent_test_node _)).2.1 _ _ hcc
    | case5 d hget hdk s1 pl hcc =>
      obtain ⟨f', rest', hst', ⟨hb, _⟩ | ⟨_, st', hcna, rfl⟩⟩ := curCheck_ok hcc
      · cases hb
      · rw [hst'] at hch
        exact sound_chain (hch.push_test (hT d (Table.lookup_mem (Gating.getCommand_ok.mp hget).1)) (by simpa using hdk)
          hcna) nofun
  | case3 | case5 => trivial
  | case8 f rest hst =>
    fun_cases closeParen s with
    | case1 | case3 => trivial
    | case2 s1 hp w hu =>
      obtain ⟨b, -, rfl⟩ := popBracket_some hp
      exact hne (up_error hu :)
  | case4 | case6 | case7 | case9 => exact hrest

theorem completion_ended {s : PState} {f : Frame} {rest : List Frame} (hs : s.stack = f :: rest)
    (hf : ¬(f.d.kind == .test || f.d.acceptChildren) = true) :
    completion { s with cstate := .none } false = .ok (true, { s with cstate := .none }) := by
  simp only [Bool.or_eq_true, beq_iff_eq, not_or, Bool.not_eq_true] at hf
  exact completion_leaf hs hf.1 hf.2

theorem closeCommand_sound {s' : PState} (hne : s'.stack ≠ []) (k : TokKind) (rew : Bool) (w : String) :
    closeCommand s' k rew ≠ .crash w := by
  -- the stack is empty under `{` (1) or `;` (4); inside the `;` branch `completion` raises (6), empties the stack (8), or
  -- `up` raises (9): but `completion` does nothing there (`completion_ended`); every other branch answers without raising
  fun_cases closeCommand s' k rew with
  | case1 _ hs | case4 _ _ hs => exact absurd hs hne
  | case6 _ _ f rest hst hf e he => rw [completion_ended hst hf] at he; cases he
  | case8 _ _ f rest hst hf s2 he hs2 =>
    rw [completion_ended hst hf] at he; cases he
    exact absurd (hst.symm.trans hs2) nofun
  | case9 _ _ f rest hst hf s2 he g r hs2 s3 w' hu =>
    rw [completion_ended hst hf] at he; cases he
    exact absurd (hs2.symm.trans (up_error hu :)) nofun
  | _ => nofun

theorem startCommand_sound {T : Table} {s : PState} {e : Option (List TokKind)} (k : TokKind) (text : Bytes)
    (hcore : Core s e) (hcs : s.cstate = .none) (w : String) : startCommand T s k text ≠ .crash w := by
  fun_cases startCommand T s k text with
  | case2 hk s1 hp w' hu =>
    -- a live `}` has the owner of its block below it
    obtain ⟨b, hb, rfl⟩ := popBracket_some hp
    have hlive := (hcore.cnone hcs).2
    have hst : s.stack = [] := (up_error hu :)
    rw [hb, eq_of_beq hk, hst] at hlive
    simp [cmds] at hlive
  | case8 => fun_cases pushCommand (announce s _) _ <;> nofun
  | _ => nofun

theorem commandFn_sound {T : Table} (hT : TableSafe T) {s : PState} {e : Option (List TokKind)} (k : TokKind)
    (text : Bytes) (hcore : Core s e) (w : String) : commandFn T s k text ≠ .crash w := by
  unfold commandFn
  split
  · rename_i hcs; exact startCommand_sound k text hcore hcs w
  · rename_i hn
    have hne := hcore.nonempty hn
    have hs : Sound (stateFn T s k text) := by
      unfold stateFn
      split
      · exact stringlistFn_sound k text hcore.chain hne
      · exact argumentsFn_sound hT k text hcore.chain hne
    split
    · rename_i s' rew heq
      rw [heq] at hs
      exact closeCommand_sound hs k rew w
    · intro h
      rw [h] at hs
      exact hs

theorem Core.congr {s s' : PState} {e} (h : Core s e) (h1 : s'.stack = s.stack) (h2 : s'.cstate = s.cstate)
    (h3 : s'.brackets = s.brackets) : Core s' e :=
  ⟨by rw [h1]; exact h.chain, by rw [h1, h2, h3]; exact h.cnone, by rw [h1, h2, h3]; exact h.cargs,
   by rw [h1, h2, h3]; exact h.cstrl, by rw [h1, h3]; exact h.paren⟩

theorem Top.congr {s s' : PState} {e} (h : Top s e) (h1 : s'.stack = s.stack) (h2 : s'.cstate = s.cstate)
    (h3 : s'.brackets = s.brackets) : Top s' e :=
  ⟨by rw [h1, h3]; exact h.open_, by rw [h1, h2]; exact h.topv⟩

def GoodStep (r : StepResult) : Prop :=
  match r with
  | .ok s' => Inv s'
  | .rewind s' => Inv s' ∧ Calm s'
  | .crash _ => False
  | .reject _ _ => True

theorem stepEff_inv {T : Table} (hT : TableSafe T) {s s' : PState} {tok : Tok} {rew : Bool} (hinv : Inv s)
    (h : StepEff T s tok s' rew) : Inv s' ∧ (rew = true → Calm s') := by
  cases h with
  | hash => exact ⟨⟨hinv.1.congr rfl rfl rfl, hinv.2.congr rfl rfl rfl⟩, nofun⟩
  | skip => exact ⟨hinv, nofun⟩
  | tok _ _ hexp he =>
    exact eff_inv hT (s := { s with expected := none }) (hinv.1.congr rfl rfl rfl) (hinv.2.congr rfl rfl rfl) hexp he

theorem step_spec (T : Table) (hT : TableSafe T) (s : PState) (tok : Tok) (hinv : Inv s) :
    GoodStep (step T s tok) := by
  cases hst : step T s tok with
  | ok s' => exact (stepEff_inv hT hinv (step_eff (.inl ⟨hst, rfl⟩))).1
  | rewind s' =>
    have := stepEff_inv hT hinv (step_eff (.inr ⟨hst, rfl⟩))
    exact ⟨this.1, this.2 rfl⟩
  | reject => trivial
  | crash w =>
    unfold step at hst
    split at hst
    · cases hst
    · cases hst
    · unfold stepTok at hst
      split at hst
      · cases hst
      · rename_i s1 hadm
        obtain ⟨rfl, hexp⟩ := admitTok_some hadm
        refine commandFn_sound hT tok.kind tok.text (s := { s with expected := none }) (hinv.1.congr rfl rfl rfl) w ?_
        unfold ofFn at hst
        split at hst <;> cases hst
        assumption

theorem rewound {T : Table} {s s' : PState} {text : Bytes} {k : TokKind} (h : Eff T s text k s' true) :
    s.cstate ≠ .none ∧ ∃ f rest f', s.stack = f :: rest ∧ f.d.nonDet = true ∧ reassign f = some f' := by
  obtain ⟨hp, -⟩ := h
  cases hp with
  | reassign hcs _ hst hnd hre => exact ⟨by rw [hcs]; nofun, _, _, _, hst, hnd, hre⟩

theorem calm_no_rewind (T : Table) (s : PState) (tok : Tok) (hc : Calm s) (s2 : PState) :
    step T s tok ≠ .rewind s2 := by
  intro h
  cases step_eff (rew := true) (.inr ⟨h, rfl⟩) with
  | tok _ _ _ he =>
    obtain ⟨hn, f, rest, f', hst, hnd, hre⟩ := rewound he
    rcases hc with hc | hc
    · exact hn hc
    · rcases hc f (by rw [show s.stack = f :: rest from hst]; rfl) with h1 | h1
      · rw [h1] at hnd; cases hnd
      · rw [h1] at hre; cases hre

/-- a verdict: neither an unexpected exception nor a livelock -/
def Verdict (o : Outcome) : Prop := (∀ w, o ≠ .crash w) ∧ o ≠ .hang

theorem deliver_spec (T : Table) (hT : TableSafe T) (s : PState) (tok : Tok) (hinv : Inv s) :
    match deliver T s tok with
    | .ok s' => Inv s'
    | .error o => Verdict o := by
  have h1 := step_spec T hT s tok hinv
  fun_cases deliver T s tok with
  | case1 s' hst => rw [hst] at h1; exact h1
  | case2 | case5 => exact ⟨nofun, nofun⟩
  | case3 w hst => rw [hst] at h1; exact h1.elim
  | case4 s1 hst s2 hst2 =>
    rw [hst] at h1
    have h2 := step_spec T hT s1 tok h1.1
    rw [hst2] at h2; exact h2
  | case6 s1 hst w hst2 =>
    rw [hst] at h1
    have h2 := step_spec T hT s1 tok h1.1
    rw [hst2] at h2; exact h2.elim
  | case7 s1 hst s2 hst2 => rw [hst] at h1; exact absurd hst2 (calm_no_rewind T s1 tok h1.2 s2)

theorem feed_spec (T : Table) (hT : TableSafe T) (toks : List Tok) (s : PState) (n : Nat) (hinv : Inv s) :
    match feed T toks s n with
    | .stop o => Verdict o
    | .done s' _ => Inv s' := by
  induction toks generalizing s n with
  | nil => exact hinv
  | cons tok rest ih =>
    unfold feed
    have h := deliver_spec T hT s tok hinv
    cases hd : deliver T s tok with
    | error o => rw [hd] at h; exact h
    | ok s' => rw [hd] at h; exact ih s' _ h

theorem finish_verdict (s : PState) (e n : Nat) : Verdict (finish s e n) := by
  fun_cases finish s e n <;> exact ⟨nofun, nofun⟩

theorem run_verdict (T : Table) (hT : TableSafe T) (endPos : Nat) (lexErr : Option (Nat × Bytes)) (toks : List Tok) :
    Verdict (run T endPos lexErr toks {} 0) := by
  unfold run
  have h := feed_spec T hT toks {} 0 Inv.init
  cases hf : feed T toks {} 0 with
  | stop o => rw [hf] at h; exact h
  | done s' n =>
    simp only
    split
    · exact ⟨by intro w h; simp at h, by simp⟩
    · exact finish_verdict _ _ _

/-- **`Parser.parse` always ends with a verdict**: for every command table satisfying `TableSafe` and
    every input, the outcome is an acceptance or a located rejection — never an exception other than
    the parser's own, never a token delivered for ever -/
theorem parse_verdict (T : Table) (hT : TableSafe T) (text : Bytes) (prev : PState) :
    Verdict (parse T text prev) := by
  unfold parse
  obtain ⟨r, hr, _⟩ := Lex.lex_total text
  rw [hr]
  exact run_verdict T hT _ _ _

end Safe
