import SieveModel.Lemmas.ReplyLine
import SieveModel.Lemmas.Codec
/-!
# Lemmas for the reply grammar (T-REPLY, second part)

Where a size indication is recognised on an `OK` line (`trailingSize`): only at the very end — found there whatever
stands in front of it, and not found on a line that ends otherwise.
-/
namespace ReplyGrammar
open Reader Client ReplyDecode ReplyLine

/-- where `{digits…` is the whole of a size indication: behind the digits stands `}` or `+}`, then at most a LF -/
theorem sizeMatchFull_some {rest : Bytes} {n : Nat} (h : trailingSize.sizeMatchFull (123 :: rest) = some n) :
    123 ∉ rest.drop (Lex.spanLen B.isDigit rest) ∧
    ((rest.drop (Lex.spanLen B.isDigit rest)).getLast? = some 125 ∨
      (rest.drop (Lex.spanLen B.isDigit rest)).getLast? = some 10) := by
  unfold trailingSize.sizeMatchFull at h
  simp only at h
  split at h
  · cases h
  · split at h
    · next heq => rw [heq]; exact ⟨by simp, .inl rfl⟩
    · next heq => rw [heq]; exact ⟨by simp, .inr rfl⟩
    · next heq => rw [heq]; exact ⟨by simp, .inl rfl⟩
    · next heq => rw [heq]; exact ⟨by simp, .inr rfl⟩
    · cases h

/-- a `{` further on: this is not where the line's size indication starts -/
theorem sizeMatchFull_none_of_brace (rest : Bytes) (h : 123 ∈ rest) : trailingSize.sizeMatchFull (123 :: rest) = none :=
  Option.eq_none_iff_forall_ne_some.mpr fun _ hs =>
    (sizeMatchFull_some hs).1 (Lex.mem_drop_spanLen B.isDigit rest 123 h (by decide))

theorem sizeMatchFull_none_of_last (rest : Bytes) (b : UInt8) (h : (123 :: rest).getLast? = some b)
    (hb : b ≠ 125 ∧ b ≠ 10) : trailingSize.sizeMatchFull (123 :: rest) = none := by
  refine Option.eq_none_iff_forall_ne_some.mpr fun n hs => ?_
  obtain ⟨_, hl⟩ := sizeMatchFull_some hs
  rw [List.getLast?_drop] at hl
  split at hl
  · rcases hl with hl | hl <;> cases hl
  · next hlen =>
    rw [List.getLast?_cons_of_ne_nil (fun e => hlen (by rw [e]; exact Nat.zero_le _))] at h
    rw [h] at hl
    rcases hl with hl | hl
    · exact hb.1 (Option.some.inj hl)
    · exact hb.2 (Option.some.inj hl)

/-- a text that does not end with `}` (or LF) does not end with a size indication -/
theorem trailingSize_none_of_last (t : Bytes) (b : UInt8) (h : t.getLast? = some b) (hb : b ≠ 125 ∧ b ≠ 10) :
    trailingSize t = none := by
  induction t with
  | nil => rfl
  | cons c rest ih =>
    have h1 : (if c == 123 then trailingSize.sizeMatchFull (c :: rest) else none) = none := by
      split
      · next hc => rw [beq_iff_eq.mp hc] at h ⊢; exact sizeMatchFull_none_of_last _ b h hb
      · rfl
    rw [trailingSize, h1]
    cases rest with
    | nil => rfl
    | cons d r => exact ih (by rwa [List.getLast?_cons_of_ne_nil (List.cons_ne_nil _ _)] at h)

/-- **a size indication at the end of the line is found whatever stands in front of it** -/
theorem trailingSize_literal (pre ds : Bytes) (hds : ds ≠ []) (hall : ∀ d ∈ ds, B.isDigit d = true) :
    trailingSize (pre ++ 123 :: (ds ++ [125])) = some (B.decToNat ds) := by
  induction pre with
  | nil =>
    have hpos : (ds.length == 0) = false := by cases ds <;> simp at hds ⊢
    simp [trailingSize, trailingSize.sizeMatchFull, spanLen_digits_append ds 125 [] hall (by decide), hpos]
  | cons x xs ih =>
    have h1 : (if x == 123 then trailingSize.sizeMatchFull (x :: (xs ++ 123 :: (ds ++ [125]))) else none) = none := by
      split
      · next hx => rw [beq_iff_eq.mp hx]; exact sizeMatchFull_none_of_brace _ (by simp)
      · rfl
    rw [List.cons_append, trailingSize, h1]
    exact ih

end ReplyGrammar
