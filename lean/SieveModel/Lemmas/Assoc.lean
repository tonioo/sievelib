import SieveModel.Model.Tree
import SieveModel.Lemmas.Bytes
/-! The insertion-ordered dict operations on argument lists (`assocSet`, `assocGet`, `assocErase`). -/

/-- `d[k'] = v; d[k]` -/
theorem assocGet_assocSet (l : List Arg) (a : Arg) (k : String) :
    assocGet (assocSet l a) k = if a.key == k then some a else assocGet l k :=
  List.find?_upsert Arg.key l a k

theorem assocGet_assocSet_self (l : List Arg) (a : Arg) : assocGet (assocSet l a) a.key = some a := by
  rw [assocGet_assocSet, if_pos (beq_self_eq_true _)]

theorem assocGet_assocSet_other (l : List Arg) (a : Arg) (k : String) (hk : (a.key == k) = false) :
    assocGet (assocSet l a) k = assocGet l k := by
  rw [assocGet_assocSet, hk]; rfl

theorem assocSet_keys (l : List Arg) (a : Arg) :
    (assocSet l a).map Arg.key = if l.any (fun p => p.key == a.key) then l.map Arg.key else l.map Arg.key ++ [a.key] := by
  unfold assocSet
  split
  · rename_i h
    simp only [List.map_map]
    apply List.map_congr_left
    intro x _
    simp only [Function.comp]
    by_cases hx : x.key == a.key
    · simp only [hx, if_true]; exact (by simpa using hx : x.key = a.key).symm
    · simp [hx]
  · simp

theorem assocGet_some {l : List Arg} {k : String} {a : Arg} (h : assocGet l k = some a) : a ∈ l ∧ a.key = k :=
  ⟨List.mem_of_find?_eq_some h, by simpa using List.find?_some h⟩

theorem mem_assocSet {l : List Arg} {a x : Arg} (h : x ∈ assocSet l a) : x ∈ l ∨ x = a :=
  List.mem_upsert Arg.key h

theorem mem_assocErase {l : List Arg} {k : String} {x : Arg} (h : x ∈ assocErase l k) : x ∈ l :=
  (List.mem_filter.mp h).1

theorem forall_mem_assocSet {P : Arg → Prop} {l : List Arg} {a : Arg} (hl : ∀ x ∈ l, P x) (ha : P a) :
    ∀ x ∈ assocSet l a, P x :=
  fun x hx => (mem_assocSet hx).elim (hl x) (· ▸ ha)

theorem forall_mem_assocErase {P : Arg → Prop} {l : List Arg} (k : String) (hl : ∀ x ∈ l, P x) :
    ∀ x ∈ assocErase l k, P x :=
  fun x hx => hl x (mem_assocErase hx)
