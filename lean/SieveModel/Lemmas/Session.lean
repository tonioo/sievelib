import SieveModel.Lemmas.ClientRead
import SieveModel.Lemmas.ClientState
/-!
# Whole sessions (T-SESSION)

A session is any list of public operations run one after the other on one client.  `runOps_congr`: two
clients that differ only in how the pending bytes are split between buffer and socket and in the recv
schedule — at the start of the session — give the same result for every operation of the session and
end in states that again differ only in that way.  So no history of operations can be brought out of
step by the way the server's bytes are delivered.  `runOps_keeps`: a session leaves the three flags as they were and
writes on one channel.  Both are `runOps_rel`, the walk of Lemmas/ClientState taken over the list.
-/
namespace Client
open Reader

/-- a public operation with its arguments -/
inductive Op where
  | havespace (name : Bytes) (size : Nat)
  | putscript (name content : Bytes)
  | deletescript (name : Bytes)
  | setactive (name : Bytes)
  | checkscript (content : Bytes)
  | listscripts
  | getscript (name : Bytes)
  | renamescript (old new : Bytes)
  | capability
  | logout
  deriving Repr

/-- what an operation hands back -/
inductive OpVal where
  | bool (b : Bool)
  | text (t : Option Bytes)
  | listing (l : Option (Option Bytes × List Bytes))
  | unit
  deriving DecidableEq, Repr

def mapRes {α : Type} (f : α → OpVal) (x : Res α) : Res OpVal :=
  (match x.1 with | .ok v => .ok (f v) | .error e => .error e, x.2)

def runOp (c : Client) : Op → Res OpVal
  | .havespace n k => mapRes .bool (havespace c n k)
  | .putscript n b => mapRes .bool (putscript c n b)
  | .deletescript n => mapRes .bool (deletescript c n)
  | .setactive n => mapRes .bool (setactive c n)
  | .checkscript b => mapRes .bool (checkscript c b)
  | .listscripts => mapRes .listing (listscripts c)
  | .getscript n => mapRes .text (getscript c n)
  | .renamescript o n => mapRes .bool (renamescript c o n)
  | .capability => mapRes .text (capability c)
  | .logout => mapRes (fun _ => .unit) (logout c)

/-- a session: the results in order and the final client -/
def runOps (c : Client) : List Op → List (Except RErr OpVal) × Client
  | [] => ([], c)
  | op :: rest =>
    let r := runOp c op
    let rs := runOps r.2 rest
    (r.1 :: rs.1, rs.2)

theorem mapRes_rel {Q : Client → Client → Prop} {α : Type} (f : α → OpVal) {x y : Res α} (h : RelQ Q x y) :
    RelQ Q (mapRes f x) (mapRes f y) :=
  ⟨by simp only [mapRes, h.1], h.2⟩

theorem runOp_rel {Q : Client → Client → Prop} (hQ : Respects Q) {a b : Client} (h : Q a b) (op : Op) :
    RelQ Q (runOp a op) (runOp b op) := by
  cases op with
  | havespace | putscript | deletescript | setactive => exact mapRes_rel _ (exchange_rel hQ h _ _)
  | checkscript c => exact mapRes_rel _ (checkscript_rel hQ h c)
  | listscripts => exact mapRes_rel _ (listscripts_rel hQ h)
  | getscript n => exact mapRes_rel _ (getscript_rel hQ h n)
  | renamescript o n => exact mapRes_rel _ (renamescript_rel hQ h o n)
  | capability => exact mapRes_rel _ (capability_rel hQ h)
  | logout => exact mapRes_rel _ (logout_rel hQ h)

theorem runOps_rel {Q : Client → Client → Prop} (hQ : Respects Q) (ops : List Op) {a b : Client} (h : Q a b) :
    (runOps a ops).1 = (runOps b ops).1 ∧ Q (runOps a ops).2 (runOps b ops).2 := by
  induction ops generalizing a b with
  | nil => exact ⟨rfl, h⟩
  | cons op rest ih =>
    obtain ⟨hv, hc⟩ := runOp_rel hQ h op
    obtain ⟨h1, h2⟩ := ih hc
    exact ⟨by simp only [runOps, hv, h1], h2⟩

theorem runOps_congr (ops : List Op) (a b : Client) (h : SameC a b) :
    (runOps a ops).1 = (runOps b ops).1 ∧ SameC (runOps a ops).2 (runOps b ops).2 :=
  runOps_rel SameC.respects ops h

/-- **no operation of a session changes who the client is**: authenticated, TLS and connected flags are what they
    were, and everything written went out on the channel the session started on -/
theorem runOps_keeps (ops : List Op) (c : Client) : Keeps c (runOps c ops).2 :=
  (runOps_rel (Keeps.respects c) ops ⟨rfl, Keeps.refl c⟩).2.2

theorem mapRes_snd {α : Type} (f : α → OpVal) (x : Res α) : (mapRes f x).2 = x.2 := rfl

/-- the operations that act on scripts (everything but CAPABILITY and LOGOUT) -/
def Op.onScripts : Op → Bool
  | .capability => false
  | .logout => false
  | _ => true

theorem runOp_unauthenticated (c : Client) (op : Op) (h : c.authenticated = false) (hs : op.onScripts = true) :
    runOp c op = (.error .error, c) := by
  cases op with
  | capability => cases hs
  | logout => cases hs
  | _ => exact congrArg (mapRes _) (guarded_unauthenticated c _ h)

end Client
