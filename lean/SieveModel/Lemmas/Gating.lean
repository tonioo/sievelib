import SieveModel.Model.Machine
import SieveModel.Lemmas.Scan
/-! Local gating lemmas: every place where the model admits an extension-bound construct tests
    membership in the loaded-extension list first. -/
namespace Gating
open Args Machine

theorem getCommand_ok {T : Table} {ld : List Bytes} {n : Bytes} {ck : Bool} {d : CmdDef} :
    getCommand T ld n ck = .ok d ↔ T.lookup n = some d ∧ (ck = true → extMissing d.extension ld = false) := by
  unfold getCommand
  cases T.lookup n with
  | none => simp
  | some d' =>
    by_cases hm : (ck && extMissing d'.extension ld) = true
    · simp only [hm, if_true, reduceCtorEq, Option.some.injEq, false_iff, not_and]
      rintro rfl h
      simp only [Bool.and_eq_true] at hm
      rw [h hm.1] at hm; exact absurd hm.2 (by decide)
    · simp only [hm, Bool.false_eq_true, if_false, Except.ok.injEq, Option.some.injEq, iff_self_and]
      rintro rfl hck
      simpa [hck] using hm

theorem getCommand_gated (T : Table) (loaded : List Bytes) (ident : Bytes) (d : CmdDef)
    (h : getCommand T loaded ident true = .ok d) : ∀ e, d.extension = some e → e ∈ loaded :=
  extMissing_false.mp ((getCommand_ok.mp h).2 rfl)

theorem getCommand_in_table (T : Table) (loaded : List Bytes) (ident : Bytes) (d : CmdDef) (c : Bool)
    (h : getCommand T loaded ident c = .ok d) : T.lookup ident = some d :=
  (getCommand_ok.mp h).1

theorem validValue_gated (d : ArgDef) (raw : Bytes) (loaded : List Bytes)
    (h : validValue d (.str raw) loaded true = .ok true)
    (hnot : inValues d.values (B.lower raw) = false) :
    ∀ ext, extLookup d.extValues (B.lower raw) = some ext → ext ∈ loaded := by
  intro ext hext
  obtain ⟨_, he⟩ | ⟨r, hr, hin | ⟨x, hx, hld⟩⟩ := validValue_true h
  · rw [List.isEmpty_iff.mp he] at hext; cases hext
  · cases hr; rw [hnot] at hin; cases hin
  · cases hr; cases hext.symm.trans hx; exact hld rfl

theorem scan_gated (cmd : Bytes) (loaded : List Bytes) (add : Bool) (t : ArgType) (v : AVal)
    (st st' : CState) (defs : List ArgDef) (pos : Nat) (k : String)
    (h : scan cmd loaded true add t v st defs pos = .ok (st', .arg k)) :
    ∃ d ∈ defs, d.name = k ∧ validValue d v loaded true = .ok true ∧
      (d.required = false → ∀ e, d.extension = some e → e ∈ loaded) := by
  rcases scan_ok h with ⟨_, h2, _⟩ | ⟨pre, a, post, rfl, _, hit⟩
  · cases h2
  · obtain ⟨hk, _, _, _, hv, hext⟩ := hit.arg
    exact ⟨a, by simp, hk, hv, fun hr => extMissing_false.mp (hext hr rfl)⟩

end Gating
