import SieveModel.Model.Client
/-! Which fields of the client each step can change: the basis of the C10 ordering theorems.  The walk through the
    operations of a session that shows it is made for any relation between two clients that the single steps respect
    (`Respects`), since Lemmas/ClientRead needs the same walk for two runs on differently cut input. -/
namespace Client
open Reader

/-- everything an exchange leaves untouched, and the shape of what it writes -/
structure Keeps (c c' : Client) : Prop where
  auth : c'.authenticated = c.authenticated
  tls : c'.tls = c.tls
  conn : c'.connected = c.connected
  writes : ∃ ws : List Bytes, c'.writes = c.writes ++ ws.map (fun b => (c.tls, b))

/-- a step that leaves the three flags and the write log alone (it touches the reader's state, or the capabilities) -/
theorem Keeps.of_eq {c c' : Client} (ha : c'.authenticated = c.authenticated) (ht : c'.tls = c.tls)
    (hc : c'.connected = c.connected) (hw : c'.writes = c.writes) : Keeps c c' :=
  ⟨ha, ht, hc, ⟨[], by rw [hw, List.map_nil, List.append_nil]⟩⟩

theorem Keeps.refl (c : Client) : Keeps c c := .of_eq rfl rfl rfl rfl

theorem Keeps.trans {a b c : Client} (h1 : Keeps a b) (h2 : Keeps b c) : Keeps a c := by
  obtain ⟨w1, hw1⟩ := h1.writes
  obtain ⟨w2, hw2⟩ := h2.writes
  refine ⟨by rw [h2.auth, h1.auth], by rw [h2.tls, h1.tls], by rw [h2.conn, h1.conn], ⟨w1 ++ w2, ?_⟩⟩
  rw [hw2, hw1, h1.tls]; simp

theorem write_keeps (c : Client) (b : Bytes) : Keeps c (write c b) :=
  ⟨rfl, rfl, rfl, ⟨[b], by simp [write]⟩⟩

theorem awaitReply_keeps (c : Client) (n : Option Nat) : Keeps c (awaitReply c n).2 := by
  unfold awaitReply
  cases readResponse n c.r with
  | error e => exact Keeps.refl c
  | ok p => exact .of_eq rfl rfl rfl rfl

theorem setErrmsg_keeps (c : Client) (m : Bytes) : Keeps c (setErrmsg c m) := .of_eq rfl rfl rfl rfl

/-- the same value, and clients related by `Q` -/
def RelQ (Q : Client → Client → Prop) {α : Type} (x y : Res α) : Prop := x.1 = y.1 ∧ Q x.2 y.2

/-- A relation between two clients that no operation of a session can break: related clients take the same branches, and
    stay related through a write, the reading of a reply and the setting of the error message, which is all the operations
    do.  Two instances: one run beside itself, with what it has kept so far (`Keeps.respects`); two runs on input that is
    cut differently (`SameC.respects`). -/
structure Respects (Q : Client → Client → Prop) : Prop where
  conn : ∀ {a b}, Q a b → a.connected = b.connected
  auth : ∀ {a b}, Q a b → a.authenticated = b.authenticated
  caps : ∀ {a b}, Q a b → a.caps = b.caps
  write : ∀ {a b}, Q a b → ∀ x, Q (write a x) (write b x)
  await : ∀ {a b}, Q a b → ∀ nbl, RelQ Q (awaitReply a nbl) (awaitReply b nbl)
  errmsg : ∀ {a b}, Q a b → ∀ m, Q (setErrmsg a m) (setErrmsg b m)

/-- Related results are one value with two related clients.  Used as
    `refine (f_rel …).elim fun v c d hcd => ?_` on a goal that matches on `f a` and `f b` (cf. `RelRes.elim`). -/
@[elab_as_elim]
theorem RelQ.elim {Q : Client → Client → Prop} {α : Type} {motive : Res α → Res α → Prop} {x y : Res α}
    (h : RelQ Q x y) (mk : ∀ v c d, Q c d → motive (v, c) (v, d)) : motive x y := by
  obtain ⟨v, c⟩ := x
  obtain ⟨w, d⟩ := y
  obtain ⟨rfl, hcd⟩ : v = w ∧ Q c d := h
  exact mk v c d hcd

theorem okOf_rel {Q : Client → Client → Prop} {x y : Res Reply} (h : RelQ Q x y) : RelQ Q (okOf x) (okOf y) :=
  h.elim fun v _ _ hcd => by cases v <;> exact ⟨rfl, hcd⟩

section walk
variable {Q : Client → Client → Prop} (hQ : Respects Q) {a b : Client} (h : Q a b)
include hQ h

theorem foldl_write_rel (ls : List Bytes) :
    Q (ls.foldl (fun acc l => write acc (l ++ CRLF)) a) (ls.foldl (fun acc l => write acc (l ++ CRLF)) b) := by
  induction ls generalizing a b with
  | nil => exact h
  | cons l rest ih => exact ih (hQ.write h _)

theorem sendCommand_rel (name : Bytes) (args : List WArg) (extra : List Bytes) (nbl : Option Nat) :
    RelQ Q (sendCommand a name args extra nbl) (sendCommand b name args extra nbl) := by
  unfold sendCommand
  rw [hQ.conn h]
  split
  · exact ⟨rfl, h⟩
  · exact hQ.await (foldl_write_rel hQ (hQ.write h (commandBytes name args)) extra) nbl

theorem guarded_rel {α : Type} (f g : Client → Res α) (hf : RelQ Q (f a) (g b)) :
    RelQ Q (guarded a f) (guarded b g) := by
  unfold guarded
  rw [hQ.auth h]
  split
  · exact hf
  · exact ⟨rfl, h⟩

theorem Respects.capHas (k : Bytes) : a.capHas k = b.capHas k := by
  simp only [Client.capHas, hQ.caps h]

/-- the operations that are one guarded exchange answered by OK / NO: HAVESPACE, PUTSCRIPT, DELETESCRIPT, SETACTIVE -/
theorem exchange_rel (name : Bytes) (args : List WArg) :
    RelQ Q (guarded a fun c => okOf (sendCommand c name args)) (guarded b fun c => okOf (sendCommand c name args)) :=
  guarded_rel hQ h _ _ (okOf_rel (sendCommand_rel hQ h _ _ _ _))

theorem checkscript_rel (content : Bytes) : RelQ Q (checkscript a content) (checkscript b content) := by
  refine guarded_rel hQ h _ _ ?_
  simp only [hQ.capHas h]
  split
  · exact ⟨rfl, h⟩
  · exact okOf_rel (sendCommand_rel hQ h _ _ _ _)

theorem listscripts_rel : RelQ Q (listscripts a) (listscripts b) := by
  refine guarded_rel hQ h _ _ ?_
  refine (sendCommand_rel hQ h (sb "LISTSCRIPTS") [] [] none).elim fun v c d hcd => ?_
  cases v with
  | error e => exact ⟨rfl, hcd⟩
  | ok rep =>
    simp only
    split
    · exact ⟨rfl, hcd⟩
    · split <;> exact ⟨rfl, hcd⟩

theorem getscript_rel (name : Bytes) : RelQ Q (getscript a name) (getscript b name) := by
  refine guarded_rel hQ h _ _ ?_
  refine (sendCommand_rel hQ h (sb "GETSCRIPT") [.str name] [] none).elim fun v c d hcd => ?_
  cases v with
  | error e => exact ⟨rfl, hcd⟩
  | ok rep =>
    simp only
    split
    · split <;> exact ⟨rfl, hcd⟩
    · exact ⟨rfl, hcd⟩

theorem activateIfNeeded_rel (active : Option Bytes) (old new : Bytes) :
    RelQ Q (activateIfNeeded a active old new) (activateIfNeeded b active old new) := by
  unfold activateIfNeeded
  split
  · exact exchange_rel hQ h _ _
  · exact ⟨rfl, h⟩

/-- the emulated (multi-command) rename: each of the five exchanges leaves related clients, so the next one starts from
    related clients again -/
theorem emulatedRename_rel (old new : Bytes) : RelQ Q (emulatedRename a old new) (emulatedRename b old new) := by
  unfold emulatedRename
  refine (listscripts_rel hQ h).elim fun v c d h => ?_
  rcases v with _ | _ | ⟨active, scripts⟩
  · exact ⟨rfl, h⟩
  · exact ⟨rfl, h⟩
  simp only
  split
  · exact ⟨rfl, hQ.errmsg h _⟩
  split
  · exact ⟨rfl, hQ.errmsg h _⟩
  refine (getscript_rel hQ h old).elim fun v c d h => ?_
  rcases v with _ | _ | body
  · exact ⟨rfl, h⟩
  · exact ⟨rfl, h⟩
  simp only
  refine (show RelQ Q (putscript c new body) (putscript d new body) from exchange_rel hQ h _ _).elim fun v c d h => ?_
  rcases v with _ | _ | _
  · exact ⟨rfl, h⟩
  · exact ⟨rfl, h⟩
  simp only
  refine (activateIfNeeded_rel hQ h active old new).elim fun v c d h => ?_
  rcases v with _ | _ | _
  · exact ⟨rfl, h⟩
  · exact ⟨rfl, h⟩
  exact exchange_rel hQ h _ _

theorem renamescript_rel (old new : Bytes) : RelQ Q (renamescript a old new) (renamescript b old new) := by
  refine guarded_rel hQ h _ _ ?_
  simp only [hQ.capHas h]
  split
  · exact okOf_rel (sendCommand_rel hQ h _ _ _ _)
  · exact emulatedRename_rel hQ h old new

theorem capability_rel : RelQ Q (capability a) (capability b) := by
  unfold capability
  refine (sendCommand_rel hQ h (sb "CAPABILITY") [] [] none).elim fun v c d hcd => ?_
  cases v <;> exact ⟨rfl, hcd⟩

theorem logout_rel : RelQ Q (logout a) (logout b) := by
  unfold logout
  refine (sendCommand_rel hQ h (sb "LOGOUT") [] [] none).elim fun v c d hcd => ?_
  cases v <;> exact ⟨rfl, hcd⟩

/-- the exchange of one SASL mechanism (the flag is set after it, by `finishAuth`) -/
theorem authWith_rel (mech login password authz : Bytes) :
    RelQ Q (authWith a mech login password authz) (authWith b mech login password authz) := by
  unfold authWith
  by_cases h1 : (mech == sb "PLAIN") = true
  · simp only [if_pos h1]; exact okOf_rel (sendCommand_rel hQ h _ _ _ _)
  by_cases h2 : (mech == sb "LOGIN") = true
  · simp only [if_neg h1, if_pos h2]; exact okOf_rel (sendCommand_rel hQ h _ _ _ _)
  by_cases h3 : (mech == sb "OAUTHBEARER") = true
  · simp only [if_neg h1, if_neg h2, if_pos h3]; exact okOf_rel (sendCommand_rel hQ h _ _ _ _)
  simp only [if_neg h1, if_neg h2, if_neg h3]
  refine (sendCommand_rel hQ h (sb "AUTHENTICATE") [.str (sb "DIGEST-MD5")] [] (some 1)).elim fun v c d hcd => ?_
  cases v <;> exact ⟨rfl, hcd⟩

end walk

/-- one run, related to itself: what it has kept of the client `c₀` it started from -/
theorem Keeps.respects (c₀ : Client) : Respects fun a b => a = b ∧ Keeps c₀ a where
  conn := fun h => h.1 ▸ rfl
  auth := fun h => h.1 ▸ rfl
  caps := fun h => h.1 ▸ rfl
  write := fun h x => ⟨h.1 ▸ rfl, h.2.trans (write_keeps _ x)⟩
  await := fun h n => ⟨h.1 ▸ rfl, h.1 ▸ rfl, h.2.trans (awaitReply_keeps _ n)⟩
  errmsg := fun h m => ⟨h.1 ▸ rfl, h.2.trans (setErrmsg_keeps _ m)⟩

theorem sendCommand_keeps (c : Client) (name : Bytes) (args : List WArg) (extra : List Bytes) (n : Option Nat) :
    Keeps c (sendCommand c name args extra n).2 :=
  (sendCommand_rel (Keeps.respects c) ⟨rfl, Keeps.refl c⟩ name args extra n).2.2

/-- an exchange on a connected client whose reply is read, a status without data: what the operation goes on with -/
theorem sendCommand_read (c : Client) (name : Bytes) (args : List WArg) (resp : Resp) (st' : RState)
    (hc : c.connected = true) (hd : resp.data = none)
    (hr : readResponse none (afterWrites c name args []).r = .ok (resp, st')) :
    sendCommand c name args = (.ok ⟨resp.code, none, resp.content⟩, { afterWrites c name args [] with r := st' }) := by
  rw [sendCommand, hc, awaitReply, hr]
  simp only [decodeReply, hd]
  rfl

theorem guarded_unauthenticated {α : Type} (c : Client) (f : Client → Res α) (h : c.authenticated = false) :
    guarded c f = (.error .error, c) := by
  rw [guarded, h]; rfl

theorem guarded_authenticated {α : Type} {c : Client} {f : Client → Res α} (h : c.authenticated = true) :
    guarded c f = f c := by
  rw [guarded, if_pos h]

theorem okOf_snd (x : Res Reply) : (okOf x).2 = x.2 := by
  obtain ⟨v, c⟩ := x
  cases v <;> rfl

/-! The operations that are one exchange and then only look at the reply: the client they leave is the one the
    exchange left.  Whatever is known of the client after `sendCommand` (`sendCommand_keeps`, `sendCommand_writes`)
    is thereby known after them. -/

theorem listscripts_snd (c : Client) :
    (listscripts c).2 = (guarded c fun c => sendCommand c (sb "LISTSCRIPTS") []).2 := by
  unfold listscripts guarded
  split
  · simp only
    rcases sendCommand c (sb "LISTSCRIPTS") [] with ⟨_ | rep, c1⟩
    · rfl
    · simp only; split
      · rfl
      · split <;> rfl
  · rfl

theorem getscript_snd (c : Client) (name : Bytes) :
    (getscript c name).2 = (guarded c fun c => sendCommand c (sb "GETSCRIPT") [.str name]).2 := by
  unfold getscript guarded
  split
  · simp only
    rcases sendCommand c (sb "GETSCRIPT") [.str name] with ⟨_ | rep, c1⟩
    · rfl
    · simp only; split
      · split <;> rfl
      · rfl
  · rfl

theorem capability_snd (c : Client) : (capability c).2 = (sendCommand c (sb "CAPABILITY") []).2 := by
  unfold capability
  rcases sendCommand c (sb "CAPABILITY") [] with ⟨_ | _, _⟩ <;> rfl

theorem logout_snd (c : Client) : (logout c).2 = (sendCommand c (sb "LOGOUT") []).2 := by
  unfold logout
  rcases sendCommand c (sb "LOGOUT") [] with ⟨_ | _, _⟩ <;> rfl

theorem getCapabilities_keeps (c : Client) : Keeps c (getCapabilities c).2 ∧ (getCapabilities c).2.writes = c.writes := by
  unfold getCapabilities
  cases readResponse none c.r with
  | error e => exact ⟨Keeps.refl c, rfl⟩
  | ok p =>
    obtain ⟨resp, r'⟩ := p
    simp only
    split
    · exact ⟨.of_eq rfl rfl rfl rfl, rfl⟩
    · split <;> exact ⟨.of_eq rfl rfl rfl rfl, rfl⟩

theorem authWith_keeps (c : Client) (m l p z : Bytes) : Keeps c (authWith c m l p z).2 :=
  (authWith_rel (Keeps.respects c) ⟨rfl, Keeps.refl c⟩ m l p z).2.2

/-- `__authenticate`: the flag is set exactly when the exchange ended with OK; everything it writes
    goes out on the channel that was current when it started -/
theorem finishAuth_spec (c : Client) (sel : Option Bytes) (l p z : Bytes) :
    ((finishAuth c sel l p z).2.authenticated = true →
        c.authenticated = true ∨ (finishAuth c sel l p z).1 = .ok true) ∧
    (finishAuth c sel l p z).2.tls = c.tls ∧ (finishAuth c sel l p z).2.connected = c.connected := by
  unfold finishAuth
  cases sel with
  | none =>
    have k := setErrmsg_keeps c (sb "No suitable mechanism found")
    exact ⟨fun h => .inl (k.auth ▸ h), k.tls, k.conn⟩
  | some mech =>
    simp only
    have k := authWith_keeps c mech l p z
    generalize authWith c mech l p z = x at k ⊢
    obtain ⟨_ | _ | _, c1⟩ := x
    · exact ⟨fun h => .inl (k.auth ▸ h), k.tls, k.conn⟩
    · exact ⟨fun h => .inl (k.auth ▸ h), k.tls, k.conn⟩
    · exact ⟨fun _ => .inr rfl, k.tls, k.conn⟩

theorem authenticate_spec (c : Client) (l p z : Bytes) (m : Option Bytes) :
    ((authenticate c l p z m).2.authenticated = true →
        c.authenticated = true ∨ (authenticate c l p z m).1 = .ok true) ∧
    (authenticate c l p z m).2.tls = c.tls ∧ (authenticate c l p z m).2.connected = c.connected := by
  unfold authenticate
  split
  · exact ⟨.inl, rfl, rfl⟩
  · exact finishAuth_spec c _ l p z

end Client
