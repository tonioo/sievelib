import SieveModel.Lemmas.Effect
import SieveModel.Lemmas.Bytes
/-!
# Hash comments are attached to the next top-level command that completes

`PState.comments` collects the texts of hash comments; `PState.result` grows only when a top-level
command is finished, and that command's node then carries the collected comments (C11, C03).
-/
namespace Comments
open Machine Args

/-- neither the pending comments nor the result changed -/
def Same (s s' : PState) : Prop := s'.comments = s.comments ∧ s'.result = s.result

/-- one finished top-level command was appended, carrying the pending comments -/
def Recorded (s s' : PState) : Prop :=
  ∃ n, s'.result = s.result ++ [n] ∧ Node.comments n = s.comments ∧ s'.comments = []

variable {T : Table} {s s' : PState}

theorem run_comments {c : Closing} {mid : PState} (h : c.run mid s') :
    Same mid s' ∨ (c = .up ∧ Recorded mid s') := by
  cases c with
  | done => cases h; exact .inl ⟨rfl, rfl⟩
  | completion ts => rw [(completion_ok h).1]; exact .inl ⟨rfl, rfl⟩
  | up =>
    obtain ⟨f, _, _, hp⟩ := up_ok h
    obtain ⟨_, hr, hc⟩ | ⟨_, hr, hc⟩ := hp.record
    · exact .inr ⟨rfl, _, hr, rfl, hc⟩
    · exact .inl ⟨hc, hr⟩

theorem direct_comments {text : Bytes} {k : TokKind} {mid : PState} {c : Closing} {rew : Bool}
    (h : Direct T s text k mid c rew) : mid.comments = s.comments ∧ mid.result = s.result ∧ (c = .up → rew = false) := by
  cases h <;> exact ⟨rfl, rfl, by simp⟩

/-- only popping a command touches comments and result, and a token that is sent back does not pop -/
theorem eff_comments {text : Bytes} {k : TokKind} {rew : Bool} (h : Eff T s text k s' rew) :
    Same s s' ∨ (rew = false ∧ Recorded s s') := by
  obtain ⟨hp, hc⟩ := h
  obtain ⟨h1, h2, h3⟩ := direct_comments hp
  unfold Same Recorded
  rw [← h1, ← h2]
  exact (run_comments hc).imp_right fun h => ⟨h3 h.1, h.2⟩

theorem stepEff_comments {tok : Tok} {rew : Bool} (h : StepEff T s tok s' rew) :
    (tok.kind = .hash_comment ∧ rew = false ∧ s'.comments = s.comments ++ [stripWs tok.text] ∧ s'.result = s.result) ∨
    (tok.kind ≠ .hash_comment ∧ (Same s s' ∨ (rew = false ∧ Recorded s s'))) := by
  cases h with
  | hash hk => exact .inl ⟨hk, rfl, rfl, rfl⟩
  | skip hk => exact .inr ⟨by rw [hk]; nofun, .inl ⟨rfl, rfl⟩⟩
  | tok hk _ _ h => exact .inr ⟨hk, eff_comments (s := { s with expected := none }) h⟩

/-- **one delivered token**: a hash comment is added to the pending comments; any other token leaves
    comments and result alone, or finishes one top-level command, which is appended to the result
    carrying exactly the pending comments, and the pending list is emptied -/
theorem deliver_comments (T : Table) (s : PState) (tok : Tok) (s' : PState) (h : deliver T s tok = .ok s') :
    (tok.kind = .hash_comment ∧ s'.comments = s.comments ++ [stripWs tok.text] ∧ s'.result = s.result) ∨
    (tok.kind ≠ .hash_comment ∧ (Same s s' ∨ Recorded s s')) := by
  obtain h | ⟨s1, h1, h2⟩ := deliver_eff h
  · exact (stepEff_comments h).imp (fun h => ⟨h.1, h.2.2⟩) (fun h => ⟨h.1, h.2.imp_right (·.2)⟩)
  · obtain ⟨_, hr, _⟩ | ⟨hk, ⟨hc, hr⟩ | ⟨hr, _⟩⟩ := stepEff_comments h1 <;> try cases hr
    obtain ⟨hk', _⟩ | ⟨_, h2⟩ := stepEff_comments h2
    · exact absurd hk' hk
    · unfold Same Recorded at h2
      rw [hc, hr] at h2
      exact .inr ⟨hk, h2.imp_right (·.2)⟩

/-- `bytes.strip()` leaves alone a text whose first and last bytes are not white space -/
theorem strip_keeps (b : Bytes) (hne : b ≠ []) (hf : B.isWs (b.head hne) = false) (hl : B.isWs (b.getLast hne) = false) :
    stripWs b = b := by
  unfold stripWs
  rw [List.dropWhile_of_head (l := b) fun x hx => by rw [List.head?_eq_some_head hne] at hx; cases hx; exact hf,
    List.dropWhile_of_head (l := b.reverse) fun x hx => by
      rw [List.head?_reverse, List.getLast?_eq_some_getLast hne] at hx; cases hx; exact hl,
    List.reverse_reverse]

end Comments
