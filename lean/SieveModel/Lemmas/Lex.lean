import SieveModel.Model.Lexer
import SieveModel.Lemmas.Bytes
/-! The lexer model read as two relations: `Rule` (what `Lex.one` answers) and `Scanned` (what the scan loop yields).
    Bounds, slices and the weave of a lexed text are inductions over them.  Before that, what the scanners answer:
    bounds for each, and for the string rule its full specification (`StrBody`). -/
namespace Lex

theorem spanLen_eq (p : UInt8 → Bool) (t : Bytes) : spanLen p t = (t.takeWhile p).length := by
  fun_induction spanLen p t with
  | case1 => rfl
  | case2 c cs hc ih => rw [List.takeWhile_cons_of_pos hc, ih]; rfl
  | case3 c cs hc => rw [List.takeWhile_cons_of_neg hc]; rfl

theorem spanLen_le (p : UInt8 → Bool) (t : Bytes) : spanLen p t ≤ t.length :=
  spanLen_eq p t ▸ (List.takeWhile_sublist p).length_le

theorem spanLen_all (p : UInt8 → Bool) (w u : Bytes) (hw : ∀ c ∈ w, p c = true) (hu : ∀ c r, u = c :: r → p c = false) :
    spanLen p (w ++ u) = w.length := by
  rw [spanLen_eq, (List.span_append w u hw fun c hc => ?_).1]
  cases u with
  | nil => cases hc
  | cons x r => cases hc; exact hu _ r rfl

theorem take_spanLen_all (p : UInt8 → Bool) (t : Bytes) : ∀ c ∈ t.take (spanLen p t), p c = true := by
  rw [spanLen_eq, ← List.prefix_iff_eq_take.mp (List.takeWhile_prefix p)]
  exact List.all_eq_true.mp List.all_takeWhile

theorem mem_drop_spanLen (p : UInt8 → Bool) (l : Bytes) (x : UInt8) (hx : x ∈ l) (hp : p x = false) :
    x ∈ l.drop (spanLen p l) := by
  induction l with
  | nil => cases hx
  | cons y ys ih =>
    simp only [spanLen]
    split
    · next hy =>
      rcases List.mem_cons.mp hx with rfl | h
      · simp [hp] at hy
      · simpa using ih h
    · simpa using hx

theorem closeComment_bounds {t : Bytes} {n : Nat} (h : closeComment t = some n) : 2 ≤ n ∧ n ≤ t.length := by
  fun_induction closeComment t generalizing n with
  | case1 => cases h; simp
  | case2 _ rest _ ih =>
    obtain ⟨m, hm, rfl⟩ := Option.map_eq_some_iff.mp h
    have := ih hm; simp; omega
  | case3 => cases h

theorem stringEnd_plain (c : UInt8) (rest : Bytes) (h34 : c ≠ 34) (h92 : c ≠ 92) :
    stringEnd (c :: rest) = (stringEnd rest).map (· + 1) :=
  stringEnd.eq_5 c rest h34 (fun _ _ h _ => h92 h) (fun h _ => h92 h)

/-- the inside of a quoted string, `([^"\\]|\\.)*`: no bare quote, every backslash followed by a byte that is no line feed -/
inductive StrBody : Bytes → Prop
  | nil : StrBody []
  | esc {c : UInt8} {r : Bytes} (hc : c ≠ 10) (h : StrBody r) : StrBody (92 :: c :: r)
  | plain {x : UInt8} {r : Bytes} (h34 : x ≠ 34) (h92 : x ≠ 92) (h : StrBody r) : StrBody (x :: r)

theorem StrBody.stringEnd {b : Bytes} (h : StrBody b) (rest : Bytes) : stringEnd (b ++ 34 :: rest) = some (b.length + 1) := by
  induction h with
  | nil => rfl
  | @esc c r hc _ ih => rw [List.cons_append, List.cons_append, Lex.stringEnd, if_neg (by simpa using hc), ih]; rfl
  | plain h34 h92 _ ih => rw [List.cons_append, stringEnd_plain _ _ h34 h92, ih]; rfl

/-- `stringEnd` finds exactly a string body and the quote that closes it; with `StrBody.stringEnd` this says all there is to
    say about it -/
theorem stringEnd_some {t : Bytes} {n : Nat} (h : stringEnd t = some n) :
    ∃ b rest, t = b ++ 34 :: rest ∧ n = b.length + 1 ∧ StrBody b := by
  -- empty (1); the closing quote (2); backslash before LF (3); an escape (4); a lone backslash at the end (5); a plain byte (6)
  fun_induction stringEnd t generalizing n with
  | case1 => cases h
  | case2 rest => cases h; exact ⟨[], rest, rfl, rfl, .nil⟩
  | case3 => cases h
  | case4 c _ hc ih =>
    obtain ⟨m, hm, rfl⟩ := Option.map_eq_some_iff.mp h
    obtain ⟨b, rest, rfl, rfl, hb⟩ := ih hm
    exact ⟨92 :: c :: b, rest, rfl, rfl, .esc (by simpa using hc) hb⟩
  | case5 => cases h
  | case6 x r h1 h2 h3 ih =>
    obtain ⟨m, hm, rfl⟩ := Option.map_eq_some_iff.mp h
    obtain ⟨b, rest, rfl, rfl, hb⟩ := ih hm
    refine ⟨x :: b, rest, rfl, rfl, .plain h1 (fun hx => ?_) hb⟩
    cases b <;> exact h2 _ _ hx rfl

theorem stringEnd_le (t : Bytes) (n : Nat) (h : stringEnd t = some n) : n ≤ t.length := by
  obtain ⟨b, rest, rfl, rfl, _⟩ := stringEnd_some h
  simp

theorem multilineEnd_bounds {t : Bytes} {acc n : Nat} (h : multilineEnd t acc = some n) :
    acc + 2 ≤ n ∧ n ≤ acc + t.length := by
  -- a line break and `.`, closed by the end, LF, CR at the end, CR LF (1–4) or by none of them (5); a `.` not after a line
  -- break (6); a second byte that is no `.` (7); fewer than two bytes left (8)
  fun_induction multilineEnd t acc generalizing n with
  | case1 => simp at h; subst h; simp
  | case2 => simp at h; subst h; simp
  | case3 => simp at h; subst h; simp
  | case4 => simp at h; subst h; simp
  | case5 a rest acc _ _ _ _ _ ih => have := ih h; simp at this ⊢; omega
  | case6 a rest acc _ ih => have := ih h; simp at this ⊢; omega
  | case7 _ b rest acc _ ih => have := ih h; simp at this ⊢; omega
  | case8 => simp at h

/-- one step down an `if … then some a else …` chain (`split at h` is very slow on these) -/
theorem of_ite_some {α : Type} {p : Prop} [Decidable p] {a b : α} {e : Option α} {P : α → Prop}
    (h : (if p then some a else e) = some b) (ha : P a) (he : e = some b → P b) : P b := by
  by_cases hp : p
  · rw [if_pos hp] at h; cases h; exact ha
  · rw [if_neg hp] at h; exact he h

def punct (k : TokKind) : Bool :=
  match k with
  | .left_bracket | .right_bracket | .left_parenthesis | .right_parenthesis | .left_cbracket | .right_cbracket
  | .semicolon | .comma => true
  | _ => false

theorem single_punct {c : UInt8} {k : TokKind} (h : single c = some k) : punct k = true := by
  unfold single at h
  iterate 8 refine of_ite_some (P := fun k => punct k = true) h rfl fun h => ?_
  cases h

theorem single_none_of {p : UInt8 → Bool} {c : UInt8} (hc : p c = true)
    (hp : ∀ d ∈ ([91, 93, 40, 41, 123, 125, 59, 44] : List UInt8), p d = false := by decide) : single c = none := by
  have h : ∀ d ∈ ([91, 93, 40, 41, 123, 125, 59, 44] : List UInt8), (c == d) = false := fun d hd => B.ne_of_class hc d (hp d hd)
  simp only [List.forall_mem_cons, List.not_mem_nil, false_imp_iff, implies_true, and_true] at h
  obtain ⟨h1, h2, h3, h4, h5, h6, h7, h8⟩ := h
  unfold single
  rw [h1, h2, h3, h4, h5, h6, h7, h8]
  rfl

theorem digit_not_alpha {c : UInt8} (h : B.isDigit c = true) : B.isAlpha_ c = false := by
  simp only [B.isDigit, B.isAlpha_, B.isUpper, B.isLower, Bool.and_eq_true, Bool.or_eq_false_iff, Bool.and_eq_false_iff,
    decide_eq_true_eq, decide_eq_false_iff_not, UInt8.le_iff_toNat_le, beq_eq_false_iff_ne, ne_eq, ← UInt8.toNat_inj] at *
  simp only [UInt8.toNat_ofNat] at *
  omega

theorem isText_iff (t : Bytes) : isText t = true ↔ ∃ r, t = 116 :: 101 :: 120 :: 116 :: 58 :: r := by
  unfold isText
  split
  · simp
  · rename_i hno
    simp only [Bool.false_eq_true, false_iff, not_exists]
    intro r hr
    exact hno r hr

/-- the size suffixes of a number -/
abbrev isSuffix (s : UInt8) : Bool := s == 75 || s == 77 || s == 71 || s == 107 || s == 109 || s == 103

/-- `Rule t k n`: `t` begins with a token of kind `k` that is `n` bytes long.  One constructor per way `Lex.one` answers
    (the eight punctuation rules are one, a number with a size suffix has its own); `one_iff` says this is `Lex.one`,
    and everything about single tokens is proved by cases on `Rule` rather than by walking through `Lex.one` again. -/
inductive Rule : Bytes → TokKind → Nat → Prop
  | punct {c k} (r) (h : single c = some k) : Rule (c :: r) k 1
  | hash (r) : Rule (35 :: r) .hash_comment (1 + spanLen (· != 10) r)
  | comment (r) {m} (h : closeComment r = some m) : Rule (47 :: 42 :: r) .bracket_comment (m + 2)
  | string (r) {m} (h : stringEnd r = some m) : Rule (34 :: r) .string (m + 1)
  | multiline (r) {n} (h : multilineEnd r 5 = some n) : Rule (116 :: 101 :: 120 :: 116 :: 58 :: r) .multiline n
  /-- a word; one that begins `text:` only when the block never closes (then `Lex.one` falls back to the identifier) -/
  | ident {c} (r) (hc : B.isAlpha_ c = true) (h : isText (c :: r) = false ∨ multilineEnd ((c :: r).drop 5) 5 = none) :
      Rule (c :: r) .identifier (1 + spanLen B.isWord r)
  | tag {d} (r) (hd : B.isAlpha_ d = true) : Rule (58 :: d :: r) .tag (2 + spanLen B.isWord r)
  | number {c} (r) (hc : B.isDigit c = true) (h : ∀ s tl, r.drop (spanLen B.isDigit r) = s :: tl → isSuffix s = false) :
      Rule (c :: r) .number (spanLen B.isDigit r + 1)
  | numberK {c s tl} (r) (hc : B.isDigit c = true) (h : r.drop (spanLen B.isDigit r) = s :: tl) (hs : isSuffix s = true) :
      Rule (c :: r) .number (spanLen B.isDigit r + 2)

section
variable {t : Bytes} {k : TokKind} {n : Nat}

theorem Rule.of_one : one t = some (k, n) → Rule t k n := by
  -- in the order of `Lex.one`'s branches: empty (1), punctuation (2), `#` (3), `/` (4–5), `"` (6), a letter (7–9),
  -- `:` (10–12), a digit (13–15), anything else (16)
  fun_cases one t with
  | case1 => intro h; cases h
  | case2 c cs k' hs => intro h; cases h; exact .punct cs hs
  | case3 c cs _ h35 => intro h; cases h; rw [beq_iff_eq.mp h35]; exact .hash cs
  | case4 c _ _ h47 r2 =>
    intro h
    obtain ⟨m, hm, h⟩ := Option.map_eq_some_iff.mp h
    cases h; rw [beq_iff_eq.mp h47]; exact .comment r2 hm
  | case5 => intro h; cases h
  | case6 c cs _ _ _ h34 =>
    intro h
    obtain ⟨m, hm, h⟩ := Option.map_eq_some_iff.mp h
    cases h; rw [beq_iff_eq.mp h34]; exact .string cs hm
  | case7 c cs _ _ _ _ ha _ m ht hm =>
    intro h; rw [if_pos ht, hm] at h; cases h
    obtain ⟨r', hr'⟩ := (isText_iff _).mp ht
    rw [hr'] at hm ⊢; exact .multiline r' hm
  | case8 c cs _ _ _ _ ha _ ht hm =>
    intro h; rw [if_pos ht, hm] at h
    cases show some (TokKind.identifier, _) = some (k, n) from h
    exact .ident cs ha (.inr hm)
  | case9 c cs _ _ _ _ ha _ ht =>
    intro h; rw [if_neg ht] at h
    cases show some (TokKind.identifier, _) = some (k, n) from h
    exact .ident cs ha (.inl (Bool.eq_false_iff.mpr ht))
  | case10 c _ _ _ _ _ h58 d r2 hd => intro h; cases h; rw [beq_iff_eq.mp h58]; exact .tag r2 hd
  | case11 => intro h; cases h
  | case12 => intro h; cases h
  | case13 c cs _ _ _ _ _ _ hdg _ d r2 hdr hsf => intro h; cases h; exact .numberK cs hdg hdr hsf
  | case14 c cs _ _ _ _ _ _ hdg _ d r2 hdr hsf =>
    intro h; cases h
    exact .number cs hdg fun s tl e => by rw [hdr] at e; cases e; exact Bool.eq_false_iff.mpr hsf
  | case15 c cs _ _ _ _ _ _ hdg _ hdr => intro h; cases h; exact .number cs hdg fun s tl e => by rw [hdr] at e; cases e
  | case16 => intro h; cases h

theorem Rule.one (h : Rule t k n) : one t = some (k, n) := by
  cases h with
  | punct r h => unfold Lex.one; dsimp only; rw [h]
  | hash r => rfl
  | comment r h => exact (congrArg (Option.map _) h : (closeComment r).map _ = _)
  | string r h => exact (congrArg (Option.map _) h : (stringEnd r).map _ = _)
  | multiline r h =>
    have : Lex.one (116 :: 101 :: 120 :: 116 :: 58 :: r) = match multilineEnd r 5 with
      | some n => some (.multiline, n) | none => some (.identifier, 1 + spanLen B.isWord (101 :: 120 :: 116 :: 58 :: r)) := rfl
    rw [this, h]
  | @ident c r hc h =>
    unfold Lex.one
    simp only [single_none_of hc, B.ne_of_class hc 35, B.ne_of_class hc 47, B.ne_of_class hc 34, hc, if_true, if_false, Bool.false_eq_true]
    cases ht : isText (c :: r) with
    | false => rfl
    | true =>
      rcases h with h | h
      · rw [ht] at h; cases h
      · rw [h]; rfl
  | @tag d r hd =>
    have : Lex.one (58 :: d :: r) = if B.isAlpha_ d = true then some (.tag, 2 + spanLen B.isWord r) else none := rfl
    rw [this, if_pos hd]
  | @number c r hc h =>
    unfold Lex.one
    simp only [single_none_of hc, B.ne_of_class hc 35, B.ne_of_class hc 47, B.ne_of_class hc 34, digit_not_alpha hc, B.ne_of_class hc 58,
      hc, if_true, if_false, Bool.false_eq_true]
    cases hdr : r.drop (spanLen B.isDigit r) with
    | nil => rfl
    | cons s tl => dsimp only; rw [if_neg (by rw [show (_ || _) = false from h s tl hdr]; exact Bool.false_ne_true)]
  | @numberK c s tl r hc h hs =>
    unfold Lex.one
    simp only [single_none_of hc, B.ne_of_class hc 35, B.ne_of_class hc 47, B.ne_of_class hc 34, digit_not_alpha hc, B.ne_of_class hc 58,
      hc, if_true, if_false, Bool.false_eq_true, h]
    rw [if_pos hs]

theorem one_iff : one t = some (k, n) ↔ Rule t k n := ⟨Rule.of_one, Rule.one⟩

theorem one_string {t : Bytes} {n : Nat} (h : one t = some (.string, n)) :
    ∃ rest m, t = 34 :: rest ∧ stringEnd rest = some m ∧ n = m + 1 := by
  cases Rule.of_one h with
  | punct r hp => cases single_punct hp
  | string r hm => exact ⟨_, _, rfl, hm, rfl⟩

theorem one_multiline {t : Bytes} {n : Nat} (h : one t = some (.multiline, n)) : isText t = true := by
  cases Rule.of_one h with
  | punct r hp => cases single_punct hp
  | multiline r hm => rfl

theorem Rule.bounds (h : Rule t k n) : 1 ≤ n ∧ n ≤ t.length := by
  cases h with
  | punct r h => simp
  | hash r => have := spanLen_le (· != 10) r; simp only [List.length_cons]; omega
  | comment r h => have := closeComment_bounds h; simp only [List.length_cons]; omega
  | string r h => have := stringEnd_le r _ h; simp only [List.length_cons]; omega
  | multiline r h => have := multilineEnd_bounds h; simp only [List.length_cons]; omega
  | ident r hc h => have := spanLen_le B.isWord r; simp only [List.length_cons]; omega
  | tag r hd => have := spanLen_le B.isWord r; simp only [List.length_cons]; omega
  | number r hc h => have := spanLen_le B.isDigit r; simp only [List.length_cons]; omega
  | numberK r hc h hs =>
    have := congrArg List.length h
    simp only [List.length_drop, List.length_cons] at this ⊢; omega

theorem one_bounds (t : Bytes) (k : TokKind) (n : Nat) (h : one t = some (k, n)) : 1 ≤ n ∧ n ≤ t.length :=
  (Rule.of_one h).bounds

end

/-- what the scan loop does on the suffix `t` that begins at offset `pos`: the tokens it yields, the lexical error if it
    stops on one, the offset it stops at.  `scan_spec` says the loop computes this; a fact about the token list of a lexed
    text is an induction over `Scanned`, not another walk through `scan`. -/
inductive Scanned : Bytes → Nat → List Tok → Option (Nat × Bytes) → Nat → Prop
  | done (pos) : Scanned [] pos [] none pos
  | ws {t pos toks e ep} (hw : 1 ≤ spanLen B.isWs t)
      (h : Scanned (t.drop (spanLen B.isWs t)) (pos + spanLen B.isWs t) toks e ep) : Scanned t pos toks e ep
  | err {t} (pos) (hw : spanLen B.isWs t = 0) (hne : t ≠ []) (h : one t = none) :
      Scanned t pos [] (some (pos, t.take (spanLen (fun x => !B.isWs x) t))) pos
  | tok {t pos k n toks e ep} (hw : spanLen B.isWs t = 0) (h1 : one t = some (k, n))
      (h : Scanned (t.drop n) (pos + n) toks e ep) : Scanned t pos (⟨k, pos, t.take n⟩ :: toks) e ep

variable {t : Bytes} {pos ep : Nat} {toks : List Tok} {e : Option (Nat × Bytes)}

/-- fuel suffices, and the loop computes `Scanned` -/
theorem scan_spec (fuel : Nat) (t : Bytes) (pos : Nat) (acc : List Tok) (hf : t.length < fuel) :
    ∃ toks e ep, scan fuel t pos acc = some ⟨acc.reverse ++ toks, e, ep⟩ ∧ Scanned t pos toks e ep := by
  fun_induction scan fuel t pos acc with
  | case1 => cases hf
  | case2 fuel pos acc => exact ⟨[], none, pos, by simp, .done pos⟩
  | case3 fuel pos acc c cs hc n ih =>
    have h1 : 1 ≤ n := by simp [n, spanLen, hc]
    have h2 := spanLen_le B.isWs (c :: cs)
    obtain ⟨toks, e, ep, hs, hS⟩ := ih (by simp only [List.length_drop, List.length_cons] at *; omega)
    exact ⟨toks, e, ep, hs, .ws h1 hS⟩
  | case4 fuel pos acc c cs hc h1 => exact ⟨[], _, pos, by simp [h1], .err pos (by simp [spanLen, hc]) (by simp) h1⟩
  | case5 fuel pos acc c cs hc k n h1 ih =>
    have hb := one_bounds _ _ _ h1
    obtain ⟨toks, e, ep, hs, hS⟩ := ih (by simp only [List.length_drop, List.length_cons] at *; omega)
    exact ⟨_ :: toks, e, ep, by simpa [h1] using hs, .tok (by simp [spanLen, hc]) h1 hS⟩

theorem lex_scanned (t : Bytes) : ∃ r, lex t = some r ∧ Scanned t 0 r.toks r.err r.endPos := by
  obtain ⟨toks, e, ep, hs, hS⟩ := scan_spec (t.length + 1) t 0 [] (Nat.lt_succ_self _)
  exact ⟨_, hs, hS⟩

theorem Scanned.of_lex {r : Result} (h : lex t = some r) : Scanned t 0 r.toks r.err r.endPos := by
  obtain ⟨r', h', hS⟩ := lex_scanned t
  rw [h] at h'; cases h'; exact hS

theorem Scanned.length_le (h : Scanned t pos toks e ep) : toks.length ≤ t.length := by
  induction h with
  | done => simp
  | ws hw _ ih => simp only [List.length_drop] at ih; omega
  | err => simp
  | tok _ h1 _ ih => have := one_bounds _ _ _ h1; simp only [List.length_drop, List.length_cons] at ih ⊢; omega

/-- C02 (lexer part): lexing always terminates with a result; at most `|text|` tokens. -/
theorem lex_total (t : Bytes) : ∃ r, lex t = some r ∧ r.toks.length ≤ t.length := by
  obtain ⟨r, h, hS⟩ := lex_scanned t
  exact ⟨r, h, hS.length_le⟩

/-- a token is the slice of the input at its recorded offset -/
def IsSlice (whole : Bytes) (tok : Tok) : Prop :=
  (whole.drop tok.pos).take tok.text.length = tok.text ∧ tok.pos + tok.text.length ≤ whole.length

theorem Scanned.slices (whole : Bytes) (h : Scanned t pos toks e ep) (hd : whole.drop pos = t) : ∀ tok ∈ toks, IsSlice whole tok := by
  induction h with
  | done => simp
  | ws _ _ ih => exact ih (by rw [← hd, List.drop_drop])
  | err => simp
  | @tok t pos k n toks e ep _ h1 _ ih =>
    have hb := one_bounds _ _ _ h1
    have hlen : t.length = whole.length - pos := by rw [← hd]; simp
    intro tok htok
    rcases List.mem_cons.mp htok with rfl | htok
    · exact ⟨by simp only [hd, List.length_take]; rw [Nat.min_eq_left hb.2], by simp only [List.length_take]; omega⟩
    · exact ih (by rw [← hd, List.drop_drop]) tok htok

theorem lex_slices (text : Bytes) (r : Result) (h : lex text = some r) : ∀ tok ∈ r.toks, IsSlice text tok :=
  (Scanned.of_lex h).slices text (by simp)

/-- `text` is the tokens in order, with nothing but white space before, between and after them -/
inductive Weave : List Tok → Bytes → Prop
  | nil (ws : Bytes) (h : ∀ c ∈ ws, B.isWs c = true) : Weave [] ws
  | cons (ws : Bytes) (h : ∀ c ∈ ws, B.isWs c = true) (tok : Tok) (toks : List Tok) (rest : Bytes)
      (hr : Weave toks rest) : Weave (tok :: toks) (ws ++ tok.text ++ rest)

theorem Weave.prepend {toks : List Tok} {x : Bytes} (h : Weave toks x) (w : Bytes) (hw : ∀ c ∈ w, B.isWs c = true) :
    Weave toks (w ++ x) := by
  cases h with
  | nil ws hws => exact .nil _ (List.forall_mem_append.mpr ⟨hw, hws⟩)
  | cons ws hws tok toks rest hr =>
    rw [← List.append_assoc, ← List.append_assoc]
    exact .cons _ (List.forall_mem_append.mpr ⟨hw, hws⟩) tok toks rest hr

theorem Scanned.weave (h : Scanned t pos toks none ep) : Weave toks t := by
  generalize he : (none : Option (Nat × Bytes)) = e at h
  induction h with
  | done => exact .nil [] (by simp)
  | @ws t _ _ _ _ _ _ ih =>
    have := (ih he).prepend _ (take_spanLen_all B.isWs t)
    rwa [List.take_append_drop] at this
  | err => cases he
  | @tok t pos k n _ _ _ _ _ _ ih =>
    have := Weave.cons [] (by simp) ⟨k, pos, t.take n⟩ _ _ (ih he)
    simpa [List.take_append_drop] using this

/-- a script that lexes without error is its tokens (comments included) woven with white space: the lexer drops
    nothing but white space -/
theorem lex_weave (text : Bytes) (r : Result) (h : lex text = some r) (herr : r.err = none) : Weave r.toks text := by
  have := Scanned.of_lex h
  rw [herr] at this; exact this.weave

end Lex
