import SieveModel.Lemmas.StackThread
import SieveModel.Lemmas.Invariant
/-!
# Every command and test of the script is in the tree exactly once (count form)

`cntN n`: number of nodes of the tree `n`.  `mu s`: nodes of the finished top-level commands, plus, for every stack
frame, the nodes already inside it and one for the frame itself — except for a frame that stands for a test, whose own
node is already counted in its parent (as the placeholder `check_next_arg("test", cmd)` stored).  Every delivered
token changes `mu` by one if it is an identifier the machine accepts and by nothing otherwise; at acceptance the stack
is empty, so the trees of an accepted script have exactly as many nodes as the script has identifier tokens.

Dict assignment overwrites, so a stored value could wipe out a test, and a finished test could land on something
other than its placeholder.  What rules this out is carried along the stack (`Lemmas/StackThread.lean`): a frame holds
tests only if its definition takes tests, and then in its one slot and nowhere else (`CF`, `HostArgs`); the frame below a
frame that stands for a test holds the placeholder where the finished test will go (`Rel`).
-/
namespace Count
open Machine Args ArgsSafe Safe

mutual
def cntN : Node → Nat
  | .mk _ a e c _ => 1 + cntAs a + cntAs e + cntNs c

def cntNs : List Node → Nat
  | [] => 0
  | n :: r => cntN n + cntNs r

def cntA : Arg → Nat
  | .test _ n => cntN n
  | .tests _ l => cntNs l
  | .str _ _ => 0
  | .strs _ _ => 0

def cntAs : List Arg → Nat
  | [] => 0
  | a :: r => cntA a + cntAs r
end

theorem cntNs_append (a b : List Node) : cntNs (a ++ b) = cntNs a + cntNs b := by
  induction a with
  | nil => simp [cntNs]
  | cons x xs ih => simp [cntNs, ih]; omega

theorem cntAs_append (a b : List Arg) : cntAs (a ++ b) = cntAs a + cntAs b := by
  induction a with
  | nil => simp [cntAs]
  | cons x xs ih => simp [cntAs, ih]; omega

theorem cntNs_single (n : Node) : cntNs [n] = cntN n := by simp [cntNs]
theorem cntAs_single (a : Arg) : cntAs [a] = cntA a := by simp [cntAs]

/-- the placeholder `check_next_arg("test", cmd)` stores for a test that is still being parsed -/
def ph (d : CmdDef) : Node := .mk d.name [] [] [] []

theorem cntN_ph (d : CmdDef) : cntN (ph d) = 1 := by simp [ph, cntN, cntAs, cntNs]

def inner (f : Frame) : Nat := cntAs f.st.arguments + cntAs f.st.extraArgs + cntNs f.children

theorem cntN_toNode (f : Frame) (c : List Bytes) : cntN (Frame.toNode f c) = 1 + inner f := by
  simp [Frame.toNode, cntN, inner]; omega

def isPlace : Attach → Bool
  | .place _ => true
  | _ => false

/-- what a frame adds to the count -/
def w (f : Frame) : Nat := inner f + (if isPlace f.attach then 0 else 1)

def wsum : List Frame → Nat
  | [] => 0
  | f :: r => w f + wsum r

def mu (s : PState) : Nat := cntNs s.result + wsum s.stack

theorem cntA_rekey (k : String) (a : Arg) : cntA (a.rekey k) = cntA a := by
  cases a <;> simp [Arg.rekey, cntA]

theorem cntAs_eq_zero {l : List Arg} : cntAs l = 0 ↔ ∀ a ∈ l, cntA a = 0 := by
  induction l with
  | nil => simp [cntAs]
  | cons x xs ih => simp [cntAs, ih, Nat.add_eq_zero_iff]

theorem cntA_value {v : AVal} (hn : ∀ n, v ≠ .test n) (k : String) : cntA (v.toArg k) = 0 := by
  cases v with
  | str b => rfl
  | strs l => rfl
  | test n => exact absurd rfl (hn n)


/-- the arguments of a command whose one slot takes tests, `c` its count of required arguments: nothing, the one test
    (then the command has its required argument), or the one test list -/
inductive HostArgs (slot : ArgDef) (c : Nat) : List Arg → Prop
  | none : HostArgs slot c []
  | test {n} : slot.types = [.test] → c = 1 → HostArgs slot c [.test slot.name n]
  | tests {ts} : slot.types = [.testlist] → HostArgs slot c [.tests slot.name ts]

theorem HostArgs.append {slot : ArgDef} {c : Nat} {l l' : List Arg} {n : Node} (hs : HostArgs slot c l)
    (ht : slot.types = [.testlist]) (h : appendTest l slot.name (.test n) = .ok l') :
    ∃ ts, l' = [.tests slot.name (ts ++ [n])] ∧ cntAs l' = cntAs l + cntN n := by
  cases hs with
  | none => cases h; exact ⟨[], rfl, by simp [cntAs, cntA, cntNs]⟩
  | test ht' => rw [ht] at ht'; cases ht'
  | @tests ts =>
    have : appendTest [.tests slot.name ts] slot.name (.test n) = .ok [.tests slot.name (ts ++ [n])] := by
      simp [appendTest, assocGet, assocSet, Arg.key]
    rw [this] at h; cases h
    exact ⟨ts, rfl, by simp [cntAs, cntA, cntNs_append, cntNs]⟩

theorem HostArgs.empty {slot : ArgDef} {c : Nat} {l : List Arg} (hs : HostArgs slot c l) (ht : slot.types = [.test])
    (hc : c = 0) : l = [] := by
  cases hs with
  | none => rfl
  | test _ h1 => omega
  | tests ht' => rw [ht] at ht'; cases ht'

/-- the counter does not matter, except to a command for a single test that has its test -/
theorem HostArgs.recount {slot : ArgDef} {c : Nat} {l : List Arg} (hs : HostArgs slot c l)
    (h0 : slot.types = [.test] → c = 0) (c' : Nat) : HostArgs slot c' l := by
  cases hs with
  | none => exact .none
  | test ht h1 => have := h0 ht; omega
  | tests ht => exact .tests ht

/-- what the count needs of a frame: no tag parameter is a test, and the arguments hold tests only in the one slot of a
    definition that takes tests -/
structure CF (f : Frame) : Prop where
  ok : FrameOK f
  extra0 : cntAs f.st.extraArgs = 0
  nonhost : isHost f.d = false → cntAs f.st.arguments = 0
  host : ∀ slot, isHost f.d = true → f.d.args = [slot] → HostArgs slot f.st.rargsCnt f.st.arguments

/-- the frame below a frame that stands for a test holds that test's placeholder, exactly where the finished test will go -/
inductive Rel (d : CmdDef) : Attach → Frame → Prop
  | child {p} : Rel d .child p
  | arg {k p} : p.st.arguments = [.test k (ph d)] → Rel d (.place (.arg k)) p
  | elem {k ts p} : p.st.arguments = [.tests k (ts ++ [ph d])] → Rel d (.place (.elem k)) p

/-- the bottom frame is a command, not a test -/
def Bot (d : CmdDef) (a : Attach) (_res : List Node) : Prop := isPlace a = false ∧ d.kind ≠ .test

theorem CF.fresh (d : CmdDef) (hd : cmdSafe d = true) (a : Attach) : CF { d := d, attach := a } :=
  ⟨⟨hd, StOK.init d⟩, rfl, fun _ => rfl, fun _ _ _ => .none⟩

theorem CF.of_zero {f : Frame} (hok : FrameOK f) (hh : isHost f.d = false) (ha : cntAs f.st.arguments = 0)
    (he : cntAs f.st.extraArgs = 0) : CF f :=
  ⟨hok, he, fun _ => ha, fun _ hh' => absurd hh' (by rw [hh]; nofun)⟩

theorem CF.host_st {f : Frame} (hcf : CF f) {a : ArgDef} (hh : isHost f.d = true) (hargs : f.d.args = [a]) {st' : CState}
    (hok : StOK f.d st') (he : st'.extraArgs = f.st.extraArgs) (hs : HostArgs a st'.rargsCnt st'.arguments) :
    CF { f with st := st' } :=
  ⟨⟨hcf.ok.1, hok⟩, he ▸ hcf.extra0, fun hn => absurd hh (by rw [hn]; nofun),
    fun slot _ hsl => by cases hargs.symm.trans hsl; exact hs⟩

theorem CF.host_of_pos {f : Frame} (hcf : CF f) (h : cntAs f.st.arguments ≠ 0) :
    ∃ a, isHost f.d = true ∧ f.d.args = [a] ∧ HostArgs a f.st.rargsCnt f.st.arguments := by
  have hh : isHost f.d = true := by
    cases hh : isHost f.d with
    | false => exact absurd (hcf.nonhost hh) h
    | true => rfl
  obtain ⟨a, hargs, _⟩ := (cmdSafe_spec hcf.ok.1).host hh
  exact ⟨a, hh, hargs, hcf.host a hh hargs⟩

/-- a frame that accepts a test: where the placeholder goes, and what the frame looks like afterwards -/
theorem host_takes_test {f : Frame} (hcf : CF f) (d : CmdDef) {ld : List Bytes} {st' : CState} {pl : Placement}
    (h : checkNextArg f.d ld f.st .test (.test (ph d)) = .ok (some (st', pl))) :
    CF { f with st := st' } ∧ Rel d (.place pl) { f with st := st' } ∧ w { f with st := st' } = w f + 1 := by
  have hd := hcf.ok.1
  obtain ⟨a, pos, hh, hargs, hslot, hit, h0⟩ := test_taken hd hcf.ok.2 h
  obtain ⟨hreq, htypes, _⟩ := hostSlotOK_spec hslot
  have hsh := hcf.host a hh hargs
  have hst' := hcf.ok.2.step hd h
  cases hit with
  | testlistSkip _ _ _ hadd => cases hadd
  | optional hr => rw [hreq] at hr; cases hr
  | testlistAdd _ ht _ _ happ =>
    obtain ⟨ts, hts, hcnt⟩ := hsh.append ht happ
    refine ⟨hcf.host_st hh hargs hst' rfl (hts ▸ .tests ht), .elem hts, ?_⟩
    simp only [w, inner, hcnt, cntN_ph]; omega
  | required _ ht =>
    have ht1 : a.types = [.test] := htypes.resolve_right ht
    -- the command had no test yet: the placeholder becomes its one argument
    have he : f.st.arguments = [] := hsh.empty ht1 (h0 ht1)
    rw [he] at hst' ⊢
    exact ⟨hcf.host_st hh hargs hst' rfl (.test ht1 (by rw [h0 ht1])), .arg rfl,
      by simp [w, inner, he, setArg, assocSet, AVal.toArg, cntAs, cntA, cntN_ph]; omega⟩

/-- a scalar or list value: only frames that take no tests accept it, and it weighs nothing -/
theorem value_keeps {f : Frame} (hcf : CF f) {ld : List Bytes} {t : ArgType} {v : AVal} (hc : Consistent t v)
    (hn : ∀ n, v ≠ .test n) {st' : CState} {pl : Placement}
    (h : checkNextArg f.d ld f.st t v = .ok (some (st', pl))) :
    CF { f with st := st' } ∧ w { f with st := st' } = w f := by
  have hd := hcf.ok.1
  have hst := hcf.ok.2
  have htt : t ≠ .test := by
    rintro rfl
    obtain ⟨n, rfl⟩ := consistent_test hc
    exact hn n rfl
  cases hh : isHost f.d with
  | true => exact absurd h (host_rejects_scalar f.d hd hh ld f.st t v true true hst htt st' pl)
  | false =>
    have hz := hcf.nonhost hh
    obtain ⟨h1, h2, _⟩ := checkNextArg_stored h
    have ha0 : cntAs st'.arguments = 0 := cntAs_eq_zero.mpr fun x hx => by
      cases h1 x hx with
      | old h => exact cntAs_eq_zero.mp hz x h
      | slot => exact cntA_value hn _
      | appended _ _ hv => exact absurd hv (hn _)
    have he0 : cntAs st'.extraArgs = 0 := cntAs_eq_zero.mpr fun x hx => by
      cases h2 x hx with
      | old h => exact cntAs_eq_zero.mp hcf.extra0 x h
      | param => exact cntA_value hn _
    exact ⟨.of_zero ⟨hd, hst.step hd h⟩ hh ha0 he0, by simp only [w, inner, ha0, he0, hz, hcf.extra0]⟩

theorem dry_keeps {f : Frame} (hcf : CF f) {ld : List Bytes} {n : Node} {st' : CState} {pl : Placement}
    (h : checkNextArg f.d ld f.st .test (.test n) (add := false) = .ok (some (st', pl))) :
    CF { f with st := st' } ∧ w { f with st := st' } = w f := by
  have hd := hcf.ok.1
  obtain ⟨hsa, hse⟩ := dry_same f.d ld f.st _ st' pl h
  refine ⟨⟨⟨hd, hcf.ok.2.step hd h⟩, hse ▸ hcf.extra0, fun hh => hsa ▸ hcf.nonhost hh, fun a hh hargs => ?_⟩,
    by simp only [w, inner, hsa, hse]⟩
  -- a command that has its single test would not have taken another
  obtain ⟨a', _, _, hargs', _, _, h0⟩ := test_taken hd hcf.ok.2 h
  cases hargs.symm.trans hargs'
  exact hsa ▸ (hcf.host a hh hargs).recount h0 _

/-- a finished frame goes into the frame below it: that frame stays in shape, and its count grows by the nodes of the
    finished tree, less the placeholder it replaces -/
theorem plug_keeps {p : Frame} {d : CmdDef} {a : Attach} (hp : CF p) (hr : Rel d a p) (n : Node) :
    CF (plug p a n) ∧ inner (plug p a n) + (if isPlace a then 1 else 0) = inner p + cntN n := by
  cases hr with
  | child =>
    refine ⟨⟨plug_ok p _ _ hp.ok nofun, hp.extra0, hp.nonhost, hp.host⟩, ?_⟩
    simp only [plug, inner, isPlace, cntNs_append, cntNs_single, Bool.false_eq_true, if_false]
    omega
  | @arg k _ hargs =>
    obtain ⟨a, hh, hsl, hsh⟩ := hp.host_of_pos (by rw [hargs]; simp [cntAs, cntA, cntN_ph])
    have hplug : plug p (.place (.arg k)) n = { p with st := { p.st with arguments := [.test k n] } } := by
      simp [plug, hargs, assocSet, Arg.key]
    rw [hargs] at hsh
    cases hsh with
    | test ht h1 =>
      -- a command for a single test has no test list
      have hnv : p.d.variableArgs = false := by rw [(cmdSafe_spec hp.ok.1).var_iff, hsl]; simp [ht]
      have hok := plug_ok p (.place (.arg a.name)) n hp.ok fun _ _ hv => by rw [hnv] at hv; cases hv
      rw [hplug] at hok ⊢
      refine ⟨hp.host_st hh hsl hok.2 rfl (.test ht h1), ?_⟩
      simp only [inner, isPlace, if_true, hargs, cntAs, cntA, cntN_ph]
      omega
  | @elem k ts _ hargs =>
    obtain ⟨a, hh, hsl, hsh⟩ := hp.host_of_pos (by rw [hargs]; simp [cntAs, cntA, cntNs_append, cntNs, cntN_ph])
    have hplug : plug p (.place (.elem k)) n = { p with st := { p.st with arguments := [.tests k (ts ++ [n])] } } := by
      simp [plug, hargs, assocGet, assocSet, Arg.key, replaceLast_snoc]
    have hok := plug_ok p (.place (.elem k)) n hp.ok fun _ h _ => by cases h; exact .inr ⟨k, rfl⟩
    rw [hargs] at hsh
    cases hsh with
    | tests ht =>
      rw [hplug] at hok ⊢
      refine ⟨hp.host_st hh hsl hok.2 rfl (.tests ht), ?_⟩
      simp only [inner, isPlace, if_true, hargs, cntAs, cntA, cntNs_append, cntNs, cntN_ph]
      omega

theorem reassign_keeps {f f' : Frame} (hf : CF f) (h : reassign f = some f') :
    CF f' ∧ w f' = w f := by
  have hok' := reassign_ok f f' hf.ok h
  obtain ⟨hsp, a, hget, _, rfl⟩ := reassign_some h
  -- a command that takes tests is no `hasflag`
  have hnh : isHost f.d = false := by
    cases hh : isHost f.d with
    | false => rfl
    | true =>
      obtain ⟨_, _, _, _, _, hsn⟩ := (cmdSafe_spec hf.ok.1).host hh
      rw [hsp] at hsn; cases hsn
  have hz := hf.nonhost hnh
  have hall := cntAs_eq_zero.mp hz
  have hnew : cntAs (assocErase f.st.arguments "variable-list" ++ [a.rekey "list-of-flags"]) = 0 := by
    refine cntAs_eq_zero.mpr fun x hx => ?_
    rcases List.mem_append.mp hx with hx | hx
    · exact hall x (mem_assocErase hx)
    · rw [List.mem_singleton.mp hx, cntA_rekey]; exact hall a (assocGet_some hget).1
  exact ⟨.of_zero hok' hnh hnew hf.extra0, by simp only [w, inner, hnew, hz]⟩

theorem closed {T : Table} (hT : TableSafe T) :
    StackThread.Closed T CF Rel Bot (fun _ => True) where
  nil := trivial
  pushTop := fun d hd _ _ hk _ => ⟨CF.fresh d (hT d hd) .top, rfl, hk⟩
  pushChild := fun d hd _ _ _ _ _ => ⟨CF.fresh d (hT d hd) .child, .child⟩
  pushTest := fun d hd _ _ _ _ hf _ hcna =>
    have ⟨h1, h2, _⟩ := host_takes_test hf d hcna
    ⟨h1, CF.fresh d (hT d hd) _, h2⟩
  value := fun _ _ _ _ _ _ hf hc hn hcna => (value_keeps hf hc hn hcna).1
  dry := fun _ _ _ _ _ hf hcna => (dry_keeps hf hcna).1
  plug := fun _ _ hp _ hr => (plug_keeps hp hr _).1
  reassign := fun _ _ hf h => (reassign_keeps hf h).1
  record := fun _ _ _ _ _ _ => trivial


abbrev SPc (s : PState) : Prop := StackThread.SP CF Rel Bot (fun _ => True) s

abbrev StackC : List Frame → List Node → Prop := StackThread.StackP CF Rel Bot

abbrev KeepsPc := StackThread.KeepsP CF Rel Bot (fun _ => True)

/-- a new frame counts for its own node, unless it stands for a test -/
theorem w_fresh (d : CmdDef) (a : Attach) : w { d := d, attach := a } = if isPlace a then 0 else 1 := by
  simp [w, inner, cntAs, cntNs]

theorem w_plug {p f : Frame} (hp : CF p) (hr : Rel f.d f.attach p) :
    w (plug p f.attach (Frame.toNode f)) = w p + w f := by
  obtain ⟨_, hacc⟩ := plug_keeps hp hr (Frame.toNode f)
  rw [cntN_toNode] at hacc
  simp only [w, plug_attach]
  cases hpl : isPlace f.attach <;> simp only [hpl, Bool.false_eq_true, if_false, if_true] at hacc ⊢ <;> omega

theorem pop_keeps {f p : Frame} {r : List Frame} {res : List Node} (h : StackC (f :: p :: r) res) :
    StackC (plug p f.attach (Frame.toNode f) :: r) res ∧
      wsum (plug p f.attach (Frame.toNode f) :: r) = wsum (f :: p :: r) := by
  have hw := w_plug h.2.2.head h.2.1
  exact ⟨h.2.2.retop (plug_keeps h.2.2.head h.2.1 _).1 (plug_d p _ _) (plug_attach p _ _),
    by simp only [wsum, hw]; omega⟩

theorem dry_top_keeps {p : Frame} {r : List Frame} {res : List Node} (h : StackC (p :: r) res) {ld : List Bytes}
    {n : Node} {st' : CState} {pl : Placement}
    (hcna : checkNextArg p.d ld p.st .test (.test n) (add := false) = .ok (some (st', pl))) :
    StackC ({ p with st := st' } :: r) res ∧ wsum ({ p with st := st' } :: r) = wsum (p :: r) := by
  obtain ⟨hcf, hw⟩ := dry_keeps h.head hcna
  exact ⟨h.retop hcf rfl rfl, by simp only [wsum, hw]⟩

theorem wsum_upLoop {res : List Node} {rest : List Frame} {f : Frame} (h : StackC (f :: rest) res) (hne : rest ≠ []) :
    wsum (upLoop f rest).1 = wsum (f :: rest) := by
  fun_induction upLoop f rest with
  | case1 f => exact absurd rfl hne
  | case2 f p rest p' hc ih =>
    obtain ⟨hst, hw⟩ := pop_keeps h
    rw [← hw]
    cases rest with
    | nil =>
      -- the bottom frame is a command, not a test: the loop stops there
      simp only [Bool.and_eq_true, beq_iff_eq] at hc
      exact absurd (plug_d p _ _ ▸ hc.1) h.2.2.2.2
    | cons q r' => exact ih hst (List.cons_ne_nil _ _)
  | case3 f p rest p' _ => exact (pop_keeps h).2

theorem mu_up {s s' : PState} (hu : up s = .ok s') (hsp : SPc s) : mu s' = mu s := by
  obtain ⟨f, rest, hst, hp⟩ := up_ok hu
  have hstk := hp.stack
  obtain ⟨rfl, hr, _⟩ | ⟨hne, hr, _⟩ := hp.record
  · have hbot : isPlace f.attach = false := (hsp.top hst).2.1
    simp only [mu, hstk, hr, hst, upLoop, wsum, cntNs_append, cntNs_single, cntN_toNode, w, hbot, Bool.false_eq_true,
      if_false]
    omega
  · simp only [mu, hstk, hr, hst, wsum_upLoop (hsp.top hst) hne]

theorem wsum_complLoop {ld : List Bytes} {res : List Node} {rest : List Frame} {f : Frame}
    (h : StackC (f :: rest) res) {o : ComplOut} (ho : complLoop ld f rest = .ok o) :
    wsum o.stack = wsum (f :: rest) :=
  (complLoop_inv (I := fun l => StackC l res ∧ wsum l = wsum (f :: rest))
    (fun h => ⟨(pop_keeps h.1).1, (pop_keeps h.1).2.trans h.2⟩)
    (fun h hcna => ⟨(dry_top_keeps h.1 hcna).1, (dry_top_keeps h.1 hcna).2.trans h.2⟩) ⟨h, rfl⟩ ho).2

theorem mu_completion {s s' : PState} {ts b : Bool} (hc : completion s ts = .ok (b, s')) (hsp : SPc s) :
    mu s' = mu s := by
  obtain ⟨he, hstk⟩ := completion_ok hc
  rw [he]
  obtain ⟨_, hs⟩ | ⟨f, rest, o, hst, ho, _, hs⟩ := hstk
  · simp only [mu, hs]
  · simp only [mu, hs, hst, wsum_complLoop (hsp.top hst) ho]

theorem run_mu {c : Closing} {mid s' : PState} (hc : c.run mid s') (h : SPc mid) : mu s' = mu mid := by
  cases c with
  | done => cases hc; rfl
  | completion ts => exact mu_completion hc h
  | up => exact mu_up hc h

/-- what one identifier adds -/
def delta (k : TokKind) : Nat := if k = .identifier then 1 else 0

variable {T : Table}

theorem mu_retop {s s' : PState} {f f' : Frame} {rest : List Frame} (hst : s.stack = f :: rest) (hw : w f' = w f)
    (h1 : s'.stack = f' :: rest) (h2 : s'.result = s.result) : mu s' = mu s := by
  simp only [mu, h1, h2, hst, wsum, hw]

/-- the direct effect of an accepted token on the count: a command or test name adds its node, nothing else adds
    or removes one -/
theorem direct_mu {s mid : PState} {k : TokKind} {text : Bytes} {c : Closing} {rew : Bool}
    (hp : Direct T s text k mid c rew) (h : SPc s) : mu mid = mu s + delta k := by
  cases hp with
  | command _ _ _ hst _ => simp [mu, hst, wsum, w_fresh, isPlace, delta]
  | child _ _ _ hst _ _ => simp [mu, hst, wsum, w_fresh, isPlace, delta]; omega
  | closeList _ _ hst hcna =>
    exact mu_retop hst (value_keeps (t := .stringlist) (v := .strs _) (h.top hst).head trivial nofun hcna).2 rfl rfl
  | @value k t _ _ _ _ _ hkt _ hst hcna =>
    have hc : Consistent t (.str text) := by cases k <;> cases hkt <;> trivial
    have hk : k ≠ .identifier := by rintro rfl; cases hkt
    simp only [delta, hk, if_false, Nat.add_zero]
    exact mu_retop hst (value_keeps (h.top hst).head hc nofun hcna).2 rfl rfl
  | test _ hst _ _ hcna =>
    obtain ⟨_, _, hw⟩ := host_takes_test (h.top hst).head _ hcna
    simp only [mu, hst, wsum, w_fresh, hw, isPlace, delta, if_true]
    omega
  | reassign _ hk hst _ hre =>
    have hw := (reassign_keeps (h.top hst).head hre).2
    have hk : k ≠ .identifier := by rintro rfl; simp at hk
    simp only [delta, hk, if_false, Nat.add_zero]
    exact mu_retop hst hw rfl rfl
  -- the other constructors leave stack and result alone, and their tokens are no identifiers
  | _ => simp [mu, delta, openList]

/-- one step: an accepted identifier adds one node; an identifier is never sent back -/
theorem stepEff_mu (hT : TableSafe T) {s s' : PState} {tok : Tok} {rew : Bool} (he : StepEff T s tok s' rew)
    (h : SPc s) : mu s' = mu s + delta tok.kind ∧ (rew = true → delta tok.kind = 0) := by
  cases he with
  | hash hk => simp [mu, delta, hk]
  | skip hk => simp [mu, delta, hk]
  | tok _ _ _ he =>
    obtain ⟨hp, hc⟩ := he
    have h0 : SPc { s with expected := none } := h.fields rfl rfl
    refine ⟨(run_mu hc (StackThread.direct_P (closed hT) hp h0)).trans (direct_mu (s := { s with expected := none }) hp h0),
      fun hr => ?_⟩
    subst hr
    generalize tok.kind = k at hp
    cases hp with
    | reassign _ hk => rcases hk with rfl | rfl | rfl <;> rfl

/-- number of identifier tokens -/
def idents : List Tok → Nat
  | [] => 0
  | t :: r => delta t.kind + idents r

theorem deliver_mu (hT : TableSafe T) {s s' : PState} {tok : Tok} (hd : deliver T s tok = .ok s') (hsp : SPc s) :
    SPc s' ∧ mu s' = mu s + delta tok.kind := by
  obtain h1 | ⟨s0, h1, h2⟩ := deliver_eff hd
  · exact ⟨StackThread.stepEff_P (closed hT) hsp h1, (stepEff_mu hT h1 hsp).1⟩
  · have hsp0 := StackThread.stepEff_P (closed hT) hsp h1
    obtain ⟨e1, hz⟩ := stepEff_mu hT h1 hsp
    exact ⟨StackThread.stepEff_P (closed hT) hsp0 h2, by rw [(stepEff_mu hT h2 hsp0).1, e1, hz rfl]⟩

theorem mu_feed (hT : TableSafe T) {toks : List Tok} {s s' : PState} {n m : Nat} (hsp : SPc s)
    (h : feed T toks s n = .done s' m) : mu s' = mu s + idents toks := by
  induction toks generalizing s n with
  | nil => cases h; rfl
  | cons tok rest ih =>
    obtain ⟨s1, hd, h⟩ := feed_cons_done.mp h
    obtain ⟨hsp1, e⟩ := deliver_mu hT hd hsp
    rw [ih hsp1 h, e, idents]; omega

/-- the count form of "every command and test of an accepted script is in its tree exactly once, and nothing else is":
    the trees have as many nodes as the script has identifier tokens -/
theorem accepted_node_count (hT : TableSafe T) (text : Bytes) (prev : PState) (r : List Node)
    (h : parse T text prev = .accept r) : ∃ lr, Lex.lex text = some lr ∧ cntNs r = idents lr.toks := by
  obtain ⟨lr, s, m, hl, _, hf, _, hst, rfl⟩ := parse_accept_iff.mp h
  have := mu_feed hT (s := {}) ⟨trivial, trivial⟩ hf
  simp only [mu, hst, wsum] at this
  exact ⟨lr, hl, by simpa [cntNs] using this⟩

end Count
