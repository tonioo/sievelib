import SieveModel.Lemmas.Factory
/-!
# The requirement list of a filter set covers every filter it ever built, through any editing history

`addfilter` / `updatefilter` build a filter with `__create_filter`, threading the set's requirement list (also when the
call ends by raising); every other editing operation leaves the list alone.  So the list only grows, and by
`createFilter_rep` every filter built in the history — still in the set or not, enabled or wrapped in `if false` — can be
re-built with every extension check on against the list as it is now.

`SetState` is not `Model/FilterSet.lean`'s list of filters: it keeps what this theorem is about (the requirement list, and of
each filter the description and the tree it was built to) and addresses filters by position, so that an operation of the
real set — whichever filter its name resolves to, whether it succeeds or is refused — is some `SOp`.
-/
namespace Factory

/-- one filter description -/
structure Desc where
  conds : List (List Val)
  acts : List (List Val)
  mt : Bytes

/-- an editing operation, as far as the requirement list and the filters' trees are concerned -/
inductive SOp where
  /-- `addfilter` -/
  | add (d : Desc)
  /-- `updatefilter` of the filter at position `i` -/
  | update (i : Nat) (d : Desc)
  /-- `removefilter` -/
  | remove (i : Nat)
  /-- `movefilter`, `enablefilter`, `disablefilter`, a refused operation: the built filters are re-ordered or re-wrapped -/
  | shuffle (f : List Nat)

/-- what the set remembers about a filter it built: the description, the requirement list before and after, the tree -/
structure Built where
  d : Desc
  start : List Bytes
  after : List Bytes
  node : Node

structure SetState where
  reqs : List Bytes := []
  built : List Built := []

def stepS (cfg : Cfg) (st : SetState) : SOp → SetState
  | .add d =>
    match createFilter cfg st.reqs d.conds d.acts d.mt with
    | (r, .ok n) => { reqs := r, built := st.built ++ [⟨d, st.reqs, r, n⟩] }
    | (r, .error _) => { st with reqs := r }
  | .update i d =>
    match createFilter cfg st.reqs d.conds d.acts d.mt with
    | (r, .ok n) => { reqs := r, built := st.built.set i ⟨d, st.reqs, r, n⟩ }
    | (r, .error _) => { st with reqs := r }
  | .remove i => { st with built := st.built.eraseIdx i }
  | .shuffle f => { st with built := f.filterMap (fun i => st.built[i]?) }

def runS (cfg : Cfg) : List SOp → SetState → SetState
  | [], st => st
  | op :: rest, st => runS cfg rest (stepS cfg st op)

/-- every built filter was built by the code, from a list the current one contains, to a list the current one contains -/
def InvS (cfg : Cfg) (st : SetState) : Prop :=
  ∀ b ∈ st.built, createFilter cfg b.start b.d.conds b.d.acts b.d.mt = (b.after, .ok b.node) ∧ ∀ x ∈ b.after, x ∈ st.reqs

/-- filters may go and the requirement list may grow -/
theorem InvS.mono {cfg : Cfg} {st : SetState} (h : InvS cfg st) {r : List Bytes} (hg : ∀ x ∈ st.reqs, x ∈ r)
    {built : List Built} (hb : ∀ b ∈ built, b ∈ st.built) : InvS cfg ⟨r, built⟩ :=
  fun b hm => ⟨(h b (hb b hm)).1, fun x hx => hg x ((h b (hb b hm)).2 x hx)⟩

/-- every editing step keeps the invariant and only adds to the requirement list -/
theorem stepS_inv (cfg : Cfg) (st : SetState) (op : SOp) (h : InvS cfg st) :
    InvS cfg (stepS cfg st op) ∧ ∀ x ∈ st.reqs, x ∈ (stepS cfg st op).reqs := by
  have hg : ∀ {d : Desc} {r res}, createFilter cfg st.reqs d.conds d.acts d.mt = (r, res) → ∀ x ∈ st.reqs, x ∈ r :=
    fun {d _ _} hc => by have := createFilter_grows cfg st.reqs d.conds d.acts d.mt; rwa [hc] at this
  cases op with
  | add d =>
    simp only [stepS]
    split <;> rename_i r _ hc <;> have hg := hg hc
    · refine ⟨fun b hb => ?_, hg⟩
      rcases List.mem_append.1 hb with hb | hb
      · exact h.mono hg (fun _ h => h) b hb
      · cases List.mem_singleton.1 hb; exact ⟨hc, fun _ h => h⟩
    · exact ⟨h.mono hg fun _ h => h, hg⟩
  | update i d =>
    simp only [stepS]
    split <;> rename_i r _ hc <;> have hg := hg hc
    · refine ⟨fun b hb => ?_, hg⟩
      rcases List.mem_or_eq_of_mem_set hb with hb | rfl
      · exact h.mono hg (fun _ h => h) b hb
      · exact ⟨hc, fun _ h => h⟩
    · exact ⟨h.mono hg fun _ h => h, hg⟩
  | remove i => exact ⟨h.mono (fun _ h => h) fun _ hb => List.mem_of_mem_eraseIdx hb, fun _ h => h⟩
  | shuffle f =>
    refine ⟨h.mono (fun _ h => h) fun b hb => ?_, fun _ h => h⟩
    obtain ⟨i, _, hi⟩ := List.mem_filterMap.1 hb
    exact List.mem_of_getElem? hi

theorem runS_inv (cfg : Cfg) : ∀ (ops : List SOp) (st : SetState), InvS cfg st → InvS cfg (runS cfg ops st)
  | [], _, h => h
  | op :: rest, st, h => runS_inv cfg rest _ (stepS_inv cfg st op h).1

/-- **the set's requirement list covers every filter built in its history**: after any sequence of editing operations
    starting from an empty set, every filter the set built — in whatever order, wrapped or not — is re-built with every
    extension check on against the requirement list as it is now (and what was loaded globally), giving the same tree -/
theorem set_requirements_cover_every_filter (cfg : Cfg) (hs : cfg.strict = none) (hT : TableOK cfg) (ops : List SOp)
 :
    let st := runS cfg ops {}
    ∀ b ∈ st.built, (∀ a ∈ b.d.acts, ActOK cfg a) →
      createFilter (cfg.strictWith (st.reqs ++ cfg.gl)) b.start b.d.conds b.d.acts b.d.mt = (b.after, .ok b.node) := by
  intro st b hb hact
  have hinv : InvS cfg st := runS_inv cfg ops {} fun _ h => (List.not_mem_nil h).elim
  obtain ⟨hbuilt, hsub⟩ := hinv b hb
  exact createFilter_rep hs hT (fun x hx => List.mem_append_right _ hx) b.start b.d.conds b.d.acts b.d.mt hact b.after b.node
    hbuilt fun x hx => List.mem_append_left _ (hsub x hx)

end Factory
