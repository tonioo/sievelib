import SieveModel.Lemmas.ReplyLine
import SieveModel.Lemmas.Codec
import SieveModel.Lemmas.ClientState
/-!
# Listings (T-LIST): a LISTSCRIPTS reply whose names are sent as quoted strings

A conforming server answers LISTSCRIPTS with one line per script — the name as a string, followed by
` ACTIVE` for the active one — and a final status line.  For names sent as *quoted strings* (any bytes
except CR and LF, with `\` and `"` escaped; RFC 5804 §4: names with CR / LF would need a literal) this
file proves, for every list of entries, every buffer / stream split and every recv schedule:

* `respLoop_data_lines` / `readResponse_lines` — the reader hands back the lines before the status
  line byte for byte and leaves exactly the bytes after the status line pending;
* `splitLines_joinCRLF` — `bytes.splitlines()` undoes the CRLF framing for lines without CR / LF;
* `parseListing_entries` — the listing decoder gives back every name exactly (un-escaping undoes the
  escaping), the inactive ones in the order sent, and the name marked ACTIVE as the active script;
* `getscript_returns_the_body` / `_the_lines` / `_the_lines_open` — GETSCRIPT on a body sent as a literal hands back its
  lines joined with LF, whatever they hold (valid UTF-8 is asked, as of the names above: the client decodes).
-/
namespace Listing
open Reader Client ReplyDecode ReplyLine

/-- no CR and no LF among the bytes -/
def NoBreak (l : Bytes) : Prop := ∀ c ∈ l, c ≠ 13 ∧ c ≠ 10

instance : DecidablePred NoBreak := fun l => by unfold NoBreak; infer_instance

theorem NoBreak.noLF {l : Bytes} (h : NoBreak l) : NoLF l := fun c hc => (h c hc).2

theorem NoBreak.tail {c : UInt8} {l : Bytes} (h : NoBreak (c :: l)) : NoBreak l :=
  fun x hx => h x (by simp [hx])

/-- lines joined the way the protocol frames them -/
def joinCRLF : List Bytes → Bytes
  | [] => []
  | l :: ls => l ++ 13 :: 10 :: joinCRLF ls

theorem splitLinesAux_line (l rest cur : Bytes) (h : NoBreak l) :
    splitLinesAux (l ++ 13 :: 10 :: rest) cur = (cur.reverse ++ l) :: splitLinesAux rest [] := by
  induction l generalizing cur with
  | nil => rw [List.nil_append, splitLinesAux, List.append_nil]
  | cons c l ih =>
    have hc := h c (List.mem_cons_self ..)
    -- `c` is neither CR nor LF: the last equation of `splitLinesAux`, whose side conditions say so
    rw [List.cons_append, splitLinesAux, ih (c :: cur) h.tail, List.reverse_cons, List.append_assoc]
    · rfl
    · exact fun _ e _ => hc.1 e
    · exact hc.1
    · exact hc.2

/-- `splitlines` undoes the CRLF framing of lines that hold neither CR nor LF -/
theorem splitLines_joinCRLF (ls : List Bytes) (h : ∀ l ∈ ls, NoBreak l) : splitLines (joinCRLF ls) = ls := by
  unfold splitLines
  induction ls with
  | nil => simp [joinCRLF, splitLinesAux]
  | cons l ls ih =>
    simp only [joinCRLF]
    rw [splitLinesAux_line l _ [] (h l (by simp)), ih (fun x hx => h x (by simp [hx]))]
    simp

/-- a line the reader passes on as data: not empty, no CRLF inside, neither a size line nor a status line -/
structure DataLine (l : Bytes) : Prop where
  ne : l ≠ []
  one : splitCRLF l = none
  nosize : sizeMatch l = none
  nostatus : respMatch l = none

theorem readLine_data (st : RState) (line rest : Bytes) (hd : DataLine line)
    (hp : pending st = line ++ 13 :: 10 :: rest) :
    ∃ st1, readLine st = .ok (.line line, st1) ∧ Leaves st rest st1 := by
  obtain ⟨st1, h1, k1⟩ := rawLine_pending st line rest hp hd.one
  refine ⟨st1, ?_, k1⟩
  rw [readLine, h1]
  simp only [List.isEmpty_eq_false_iff.mpr hd.ne, Bool.false_eq_true, if_false, hd.nosize, hd.nostatus]

/-- the reply loop takes data lines one by one, appending each with its CRLF, and consumes nothing else -/
theorem respLoop_data_lines (ls : List Bytes) (h : ∀ l ∈ ls, DataLine l) (st : RState) (tail : Bytes)
    (hp : pending st = joinCRLF ls ++ tail) :
    ∃ st1, Leaves st tail st1 ∧
      ∀ (k cpt : Nat) (acc : Bytes),
        respLoop none (k + ls.length) acc cpt st = respLoop none k (acc ++ joinCRLF ls) (cpt + ls.length) st1 := by
  induction ls generalizing st with
  | nil => exact ⟨st, ⟨hp, rfl, rfl, rfl⟩, fun k cpt acc => by rw [joinCRLF, List.append_nil]; rfl⟩
  | cons l ls ih =>
    have hd := h l (List.mem_cons_self ..)
    rw [joinCRLF, List.append_assoc, List.cons_append, List.cons_append] at hp
    obtain ⟨st1, h1, k1⟩ := readLine_data st l _ hd hp
    obtain ⟨st2, k2, hloop⟩ := ih (fun x hx => h x (List.mem_cons_of_mem _ hx)) st1 k1.pending
    refine ⟨st2, k1.trans k2, fun k cpt acc => ?_⟩
    rw [List.length_cons, ← Nat.add_assoc, respLoop, h1]
    simp only [List.isEmpty_eq_false_iff.mpr hd.ne, Bool.false_eq_true, if_false,
      show ((none : Option Nat) == some (cpt + 1)) = false from rfl]
    rw [hloop, joinCRLF, CRLF, Nat.add_assoc, Nat.add_comm 1]
    simp only [List.append_assoc, List.cons_append, List.nil_append]

theorem length_le_joinCRLF (ls : List Bytes) : ls.length ≤ (joinCRLF ls).length := by
  induction ls with
  | nil => exact Nat.le_refl 0
  | cons x xs ih => rw [joinCRLF, List.length_append, List.length_cons, List.length_cons, List.length_cons]; omega

/-- **data lines followed by an `OK` status line** (bare, or with a text that does not end in a size
    indication): the content is the lines, framed as sent; exactly what follows the status line stays pending -/
theorem readResponse_lines (ls : List Bytes) (h : ∀ l ∈ ls, DataLine l) (st : RState) (fin rest : Bytes)
    (d : Option Bytes) (hfin : StatusLine fin .OK d) (hts : d.bind trailingSize = none)
    (hp : pending st = joinCRLF ls ++ (fin ++ 13 :: 10 :: rest)) :
    ∃ st', readResponse none st = .ok (⟨some .OK, d, joinCRLF ls⟩, st') ∧ Leaves st rest st' := by
  obtain ⟨st1, k1, hloop⟩ := respLoop_data_lines ls h st _ hp
  obtain ⟨st2, h2, k2⟩ := readLine_ok st1 fin rest d k1.pending hfin hts
  refine ⟨st2, ?_, k1.trans k2⟩
  obtain ⟨k, hk⟩ : ∃ k, st.buf.length + st.net.stream.length + 1 = (k + 1) + ls.length := by
    have := congrArg List.length hp
    have := length_le_joinCRLF ls
    simp only [pending, List.length_append] at *
    exact ⟨st.buf.length + st.net.stream.length - ls.length, by omega⟩
  rw [readResponse, hk, hloop (k + 1) 0 [], respLoop, h2]
  rfl

structure Entry where
  name : Bytes
  active : Bool
  deriving Repr

/-- one line of the listing: the name as a quoted string, ` ACTIVE` behind the active one -/
def encEntry (e : Entry) : Bytes :=
  34 :: (escapeQ e.name ++ 34 :: (if e.active then sb " ACTIVE" else []))

/-- the listing on the wire -/
def wire (es : List Entry) : Bytes := joinCRLF (es.map encEntry)

def inactive (es : List Entry) : List Bytes := (es.filter (fun e => !e.active)).map (·.name)

/-- the name marked ACTIVE (the last one, should a server mark several) -/
def activeOf : List Entry → Option Bytes → Option Bytes
  | [], a => a
  | e :: es, a => activeOf es (if e.active then some e.name else a)

/-- when every flagged entry carries the same name, that name is the active one iff some entry is flagged -/
theorem activeOf_flagged (es : List Entry) (a : Bytes) (init : Option Bytes) (h : ∀ e ∈ es, e.active = true → e.name = a) :
    activeOf es init = if es.any (·.active) then some a else init := by
  induction es generalizing init with
  | nil => simp [activeOf]
  | cons e es ih =>
    have ih' := ih (init := if e.active then some e.name else init) (fun x hx => h x (by simp [hx]))
    simp only [activeOf, ih', List.any_cons]
    by_cases ha : e.active = true
    · have hn := h e (by simp) ha
      simp only [ha, if_true, Bool.true_or, hn]
      split <;> rfl
    · have ha' : e.active = false := by simpa using ha
      simp only [ha', Bool.false_eq_true, if_false, Bool.false_or]


theorem encEntry_noBreak (e : Entry) (h : NoBreak e.name) : NoBreak (encEntry e) := by
  intro c hc
  unfold encEntry at hc
  simp only [List.mem_cons, List.mem_append] at hc
  rcases hc with rfl | hc | rfl | hc
  · decide
  · exact forall_mem_escapeQ h (by decide) c hc
  · decide
  · split at hc
    · have hall : ∀ x ∈ sb " ACTIVE", x ≠ 13 ∧ x ≠ 10 := by decide
      exact hall c hc
    · simp at hc

theorem encEntry_dataLine (e : Entry) (h : NoBreak e.name) : DataLine (encEntry e) where
  ne := List.cons_ne_nil _ _
  one := splitCRLF_none_of_noLF _ (encEntry_noBreak e h).noLF
  nosize := rfl
  nostatus := rfl

/-- one line of a listing: the name is un-escaped, and goes where the ACTIVE flag says -/
theorem parseListing_encEntry (e : Entry) (hv : Utf8.valid e.name = true) (ls : List Bytes) (act : Option Bytes)
    (acc : List Bytes) :
    parseListing (encEntry e :: ls) act acc =
      if e.active then parseListing ls (some e.name) acc else parseListing ls act (acc ++ [e.name]) := by
  rw [encEntry, parseListing]
  simp only [quotedBody_escapeQ, unescape_escapeQ, hv, Bool.not_true, Bool.false_eq_true, if_false]
  cases e.active with
  | false => rfl
  | true => rw [if_pos rfl, if_pos rfl, if_pos (by decide)]

theorem inactive_cons (e : Entry) (es : List Entry) :
    inactive (e :: es) = if e.active then inactive es else e.name :: inactive es := by
  cases h : e.active <;> simp [inactive, h]

/-- **the listing decoder gives back what was sent**: every name exactly, inactive ones in order, the one
    marked ACTIVE as the active script -/
theorem parseListing_entries (es : List Entry) (hv : ∀ e ∈ es, Utf8.valid e.name = true)
    (act : Option Bytes) (acc : List Bytes) :
    parseListing (es.map encEntry) act acc = .ok (activeOf es act, acc ++ inactive es) := by
  induction es generalizing act acc with
  | nil => rw [List.map_nil, parseListing, activeOf, inactive, List.filter_nil, List.map_nil, List.append_nil]
  | cons e es ih =>
    rw [List.map_cons, parseListing_encEntry e (hv e (List.mem_cons_self ..)), activeOf, inactive_cons,
      ih fun x hx => hv x (List.mem_cons_of_mem _ hx), ih fun x hx => hv x (List.mem_cons_of_mem _ hx)]
    cases e.active with
    | false => rw [if_neg Bool.false_ne_true, if_neg Bool.false_ne_true, if_neg Bool.false_ne_true, List.append_assoc]; rfl
    | true => rfl

theorem listing_decodes (es : List Entry) (hb : ∀ e ∈ es, NoBreak e.name) (hv : ∀ e ∈ es, Utf8.valid e.name = true) :
    parseListing (splitLines (wire es)) none [] = .ok (activeOf es none, inactive es) := by
  unfold wire
  rw [splitLines_joinCRLF]
  · simpa using parseListing_entries es hv none []
  · intro l hl
    obtain ⟨e, he, rfl⟩ := List.mem_map.1 hl
    exact encEntry_noBreak e (hb e he)

/-- **LISTSCRIPTS end to end at the client level**: with the listing and a bare `OK` pending after the
    command has been written, `listscripts` returns the names and the active script the server sent and
    leaves exactly the following bytes pending -/
theorem listscripts_returns_the_listing (c : Client) (es : List Entry) (rest : Bytes)
    (ha : c.authenticated = true) (hc : c.connected = true)
    (hb : ∀ e ∈ es, NoBreak e.name) (hv : ∀ e ∈ es, Utf8.valid e.name = true)
    (hp : pending (afterWrites c (sb "LISTSCRIPTS") [] []).r = wire es ++ (sb "OK" ++ 13 :: 10 :: rest)) :
    (listscripts c).1 = .ok (some (activeOf es none, inactive es)) ∧ pending (listscripts c).2.r = rest := by
  have hd : ∀ l ∈ es.map encEntry, DataLine l := by
    intro l hl
    obtain ⟨e, he, rfl⟩ := List.mem_map.1 hl
    exact encEntry_dataLine e (hb e he)
  obtain ⟨st', hr, hp', _, _⟩ := readResponse_lines (es.map encEntry) hd _ (sb "OK") rest none
    (StatusLine.of_statusLine .OK [] nofun nofun) rfl hp
  have hdec := listing_decodes es hb hv
  unfold wire at hdec
  rw [listscripts, guarded_authenticated ha, sendCommand_read c _ _ _ st' hc rfl hr]
  simp only [show ((some Status.OK : Option Status) == some Status.NO) = false from rfl, Bool.false_eq_true, if_false, hdec]
  exact ⟨trivial, hp'⟩

theorem joinCRLF_append (a b : List Bytes) : joinCRLF (a ++ b) = joinCRLF a ++ joinCRLF b := by
  induction a with
  | nil => simp [joinCRLF]
  | cons x xs ih => simp [joinCRLF, ih]

theorem endsWithCRLF_snoc (x : Bytes) : endsWithCRLF (x ++ [13, 10]) = true := by
  simp [endsWithCRLF, List.reverse_append]

theorem endsWithCRLF_joinCRLF (ls : List Bytes) (hne : ls ≠ []) : endsWithCRLF (joinCRLF ls) = true := by
  obtain ⟨init, last, rfl⟩ : ∃ init last, ls = init ++ [last] := by
    refine ⟨ls.dropLast, ls.getLast hne, ?_⟩
    exact (List.dropLast_concat_getLast hne).symm
  rw [joinCRLF_append]
  have : joinCRLF [last] = last ++ [13, 10] := by simp [joinCRLF]
  rw [this, ← List.append_assoc]
  exact endsWithCRLF_snoc _

theorem endsWithCRLF_open (x last : Bytes) (hne : last ≠ []) (hb : NoBreak last) : endsWithCRLF (x ++ last) = false := by
  obtain ⟨init, z, rfl⟩ : ∃ init z, last = init ++ [z] :=
    ⟨last.dropLast, last.getLast hne, (List.dropLast_concat_getLast hne).symm⟩
  have hz : z ≠ 10 := (hb z (by simp)).2
  simp only [endsWithCRLF, List.reverse_append, List.reverse_cons, List.reverse_nil, List.nil_append,
    List.cons_append]
  split
  · rename_i heq
    simp only [List.cons.injEq] at heq
    exact absurd heq.1 hz
  · rfl

/-- the server's literal: `{n}` CRLF and the `n` octets -/
def literalS (b : Bytes) : Bytes := 123 :: (B.natToDec b.length ++ [125]) ++ 13 :: 10 :: b

/-- **GETSCRIPT end to end at the client level, for any body**: with the body as a literal and a bare `OK` pending after
    the command has been written, the caller gets the lines of the body (completed with a CRLF if it does not end with
    one), joined with LF, and exactly the following bytes stay pending -/
theorem getscript_returns_the_body (c : Client) (name body rest : Bytes)
    (ha : c.authenticated = true) (hc : c.connected = true)
    (hv : (splitLines (if endsWithCRLF body then body else body ++ CRLF)).all Utf8.valid = true)
    (hp : pending (afterWrites c (sb "GETSCRIPT") [.str name] []).r = literalS body ++ 13 :: 10 :: (sb "OK" ++ 13 :: 10 :: rest)) :
    (getscript c name).1 = .ok (some (joinNl (splitLines (if endsWithCRLF body then body else body ++ CRLF)))) ∧
      pending (getscript c name).2.r = rest := by
  obtain ⟨hd1, hd2, hd3⟩ := B.natToDec_spec body.length
  obtain ⟨st', hr, hp'⟩ := readResponse_literal_ok none _ (B.natToDec body.length) body rest hd1 hd2 hd3
    (by rw [hp]; simp [literalS])
  rw [getscript, guarded_authenticated ha, sendCommand_read c _ _ _ st' hc rfl hr]
  simp only [show ((some Status.OK : Option Status) == some Status.OK) = true from rfl, if_true, hv]
  exact ⟨trivial, hp'⟩

/-- script stored as CRLF-terminated lines: the caller gets those lines, joined with LF (Python's line convention),
    whatever they contain besides CR and LF — `OK`, `NO "x"`, `{5}`, quotes, NUL -/
theorem getscript_returns_the_lines (c : Client) (name : Bytes) (ls : List Bytes) (rest : Bytes)
    (ha : c.authenticated = true) (hc : c.connected = true) (hne : ls ≠ [])
    (hb : ∀ l ∈ ls, NoBreak l) (hv : ∀ l ∈ ls, Utf8.valid l = true)
    (hp : pending (afterWrites c (sb "GETSCRIPT") [.str name] []).r =
            literalS (joinCRLF ls) ++ 13 :: 10 :: (sb "OK" ++ 13 :: 10 :: rest)) :
    (getscript c name).1 = .ok (some (joinNl ls)) ∧ pending (getscript c name).2.r = rest := by
  have h := getscript_returns_the_body c name (joinCRLF ls) rest ha hc
  rw [endsWithCRLF_joinCRLF ls hne, if_pos rfl, splitLines_joinCRLF ls hb] at h
  exact h (List.all_eq_true.2 hv) hp

/-- the same for a script whose last line has no line terminator -/
theorem getscript_returns_the_lines_open (c : Client) (name : Bytes) (ls : List Bytes) (last rest : Bytes)
    (ha : c.authenticated = true) (hc : c.connected = true) (hlast : last ≠ [])
    (hb : ∀ l ∈ ls ++ [last], NoBreak l) (hv : ∀ l ∈ ls ++ [last], Utf8.valid l = true)
    (hp : pending (afterWrites c (sb "GETSCRIPT") [.str name] []).r =
            literalS (joinCRLF ls ++ last) ++ 13 :: 10 :: (sb "OK" ++ 13 :: 10 :: rest)) :
    (getscript c name).1 = .ok (some (joinNl (ls ++ [last]))) ∧ pending (getscript c name).2.r = rest := by
  have h := getscript_returns_the_body c name (joinCRLF ls ++ last) rest ha hc
  have hcont : joinCRLF ls ++ last ++ CRLF = joinCRLF (ls ++ [last]) := by
    rw [joinCRLF_append]; simp [joinCRLF, CRLF]
  rw [endsWithCRLF_open _ last hlast (hb last (by simp)), if_neg Bool.false_ne_true, hcont, splitLines_joinCRLF _ hb] at h
  exact h (List.all_eq_true.2 hv) hp

end Listing
