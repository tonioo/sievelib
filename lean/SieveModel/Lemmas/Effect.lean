import SieveModel.Lemmas.Machine
/-!
# What one token does to the parser state

The parser's transition relation, read off `commandFn` once.  Every call of `__command` that answers True has a
direct effect `Direct T s text k mid c rew` — fifteen cases, by token kind and state, the new state `mid` written as
an update of `s` — followed by one closing operation `c` : nothing, the completion check, or a pop (`Closing.run`).
`commandFn_eff` is the only walk through the machine's functions on the accepting side; every fact about "what an accepted token does"
(bracket discipline, loaded list, comments, the invariants threaded through the frame stack, the node count) is a
case analysis over `Direct` plus one lemma each about `completion` and `up`.
-/
namespace Machine
open Args

theorem popBracket_some {s s1 : PState} {k : TokKind} (h : popBracket s k = some s1) :
    ∃ b, s.brackets = k :: b ∧ s1 = { s with brackets := b } := by
  revert h
  fun_cases popBracket s k with
  | case1 | case3 => nofun
  | case2 x b hb hx => intro h; cases h; exact ⟨b, by rw [hb, eq_of_beq hx], rfl⟩

theorem admitTok_some {s s1 : PState} {k : TokKind} (h : admitTok s k = some s1) :
    s1 = { s with expected := none } ∧ ∀ exp, s.expected = some exp → k ∈ exp := by
  revert h
  fun_cases admitTok s k with
  | case1 hn => intro h; cases h; exact ⟨by cases s; cases hn; rfl, fun _ he => by rw [hn] at he; cases he⟩
  | case2 exp he hk =>
    intro h; cases h; exact ⟨rfl, fun _ he' => by rw [he] at he'; cases he'; exact of_decide_eq_true hk⟩
  | case3 => nofun

theorem curCheck_ok {s s' : PState} {t : ArgType} {v : AVal} {b : Bool} {pl : Placement}
    (h : curCheck s t v = .ok (b, s', pl)) :
    ∃ f rest, s.stack = f :: rest ∧
      ((b = false ∧ s' = s ∧ checkNextArg f.d s.loaded f.st t v = .ok none) ∨
       (b = true ∧ ∃ st', checkNextArg f.d s.loaded f.st t v = .ok (some (st', pl)) ∧
          s' = { s with stack := { f with st := st' } :: rest })) := by
  revert h
  fun_cases curCheck s t v with
  | case1 | case2 => nofun
  | case3 f rest hst hc => intro h; cases h; exact ⟨f, rest, hst, .inl ⟨rfl, rfl, hc⟩⟩
  | case4 f rest hst st' pl' hc =>
    intro h; cases h; exact ⟨f, rest, hst, .inr ⟨rfl, st', hc, by simp only [withTop, hst]⟩⟩

theorem completion_ok {s s' : PState} {ts b : Bool} (h : completion s ts = .ok (b, s')) :
    s' = { s with stack := s'.stack, expected := s'.expected } ∧
    ((b = true ∧ s'.stack = s.stack) ∨
     ∃ f rest o, s.stack = f :: rest ∧ complLoop s.loaded f rest = .ok o ∧ o.ok = b ∧ s'.stack = o.stack) := by
  revert h
  fun_cases completion s ts with
  | case1 | case4 => nofun
  | case2 => intro h; cases h; exact ⟨rfl, .inl ⟨rfl, rfl⟩⟩
  | case3 => intro h; cases h; split <;> exact ⟨rfl, .inl ⟨rfl, rfl⟩⟩
  | case5 f rest hst _ _ o ho => intro h; cases h; exact ⟨rfl, .inr ⟨f, rest, o, hst, ho, rfl, rfl⟩⟩

/-- what `up` made of `s`, whose stack was `f :: rest`: `f` is popped — into `result`, with the pending comments, when it
    was the only frame, else into the frames below; nothing else changes -/
structure Popped (s s' : PState) (f : Frame) (rest : List Frame) : Prop where
  stack : s'.stack = (upLoop f rest).1
  expected : s'.expected = if (upLoop f rest).2 then some [.comma, .right_parenthesis] else s.expected
  frame : s' = { s with stack := s'.stack, expected := s'.expected, result := s'.result, comments := s'.comments }
  record : (rest = [] ∧ s'.result = s.result ++ [Frame.toNode f s.comments] ∧ s'.comments = []) ∨
    (rest ≠ [] ∧ s'.result = s.result ∧ s'.comments = s.comments)

theorem up_ok {s s' : PState} (h : up s = .ok s') : ∃ f rest, s.stack = f :: rest ∧ Popped s s' f rest := by
  revert h
  fun_cases up s with
  | case1 => nofun
  | case2 f rest hst =>
    intro h; cases h
    refine ⟨f, rest, hst, ?_⟩
    cases rest
    · exact ⟨rfl, rfl, rfl, .inl ⟨rfl, rfl, rfl⟩⟩
    · exact ⟨rfl, rfl, rfl, .inr ⟨nofun, rfl, rfl⟩⟩

theorem up_error {s : PState} {w : String} (h : up s = .error w) : s.stack = [] := by
  revert h
  fun_cases up s with
  | case1 hs => exact fun _ => hs
  | case2 => nofun

theorem complThen_ret {s s' : PState} {ts rew b rew' : Bool} (h : complThen s ts rew = .ret b s' rew') :
    completion s ts = .ok (b, s') ∧ rew' = rew := by
  revert h
  fun_cases complThen s ts rew with
  | case1 e => cases e <;> nofun
  | case2 b s' hc => intro h; cases h; exact ⟨hc, rfl⟩

theorem thenCompl_ret {r : FnResult} {s' : PState} {b rew : Bool} (h : thenCompl r = .ret b s' rew) :
    (∃ s1, r = .ret true s1 rew ∧ completion s1 false = .ok (b, s')) ∨ (b = false ∧ r = .ret false s' rew) := by
  unfold thenCompl at h
  split at h
  · obtain ⟨hc, rfl⟩ := complThen_ret h
    exact .inl ⟨_, rfl, hc⟩
  · rename_i hne
    subst h
    cases b
    · exact .inr ⟨rfl, rfl⟩
    · exact absurd rfl (hne _ _)

theorem offer_ret {s s' : PState} {t : ArgType} {v : AVal} {b rew : Bool} (h : offer s t v = .ret b s' rew) :
    rew = false ∧ ∃ pl, curCheck s t v = .ok (b, s', pl) := by
  revert h
  fun_cases offer s t v with
  | case1 e => cases e <;> nofun
  | case2 b s' pl hc => intro h; cases h; exact ⟨rfl, pl, hc⟩

theorem tryReassign_ret {s s' : PState} {b rew : Bool} (h : tryReassign s = .ret b s' rew) :
    (b = false ∧ rew = false ∧ s' = s) ∨
    (b = true ∧ rew = true ∧ ∃ f rest f', s.stack = f :: rest ∧ f.d.nonDet = true ∧ reassign f = some f' ∧
      s' = { s with stack := f' :: rest }) := by
  revert h
  fun_cases tryReassign s with
  | case1 => nofun
  | case2 | case4 => intro h; cases h; exact .inl ⟨rfl, rfl, rfl⟩
  | case3 f rest hst hnd f' hre =>
    intro h; cases h; exact .inr ⟨rfl, rfl, f, rest, f', hst, hnd, hre, by simp only [withTop, hst]⟩

theorem complLoop_false {ld : List Bytes} {f : Frame} {rest : List Frame} {o : ComplOut}
    (h : complLoop ld f rest = .ok o) (hf : o.ok = false) : ∃ g r, o.stack = g :: r ∧ Frame.complete g = false := by
  fun_induction complLoop ld f rest with
  | case5 f p rest p' _ hnc _ => cases h; exact ⟨_, rest, rfl, by simpa using hnc⟩
  | case3 _ _ _ _ _ _ _ ih | case8 _ _ _ _ _ ih => exact ih h
  | case7 => rename_i ih; exact ih h
  | _ => cases h <;> cases hf

/-- the completion loop does two things to the stack: it pops the top frame into the one below, and it lets the new top
    try a test with `add` off; what both keep, the loop keeps.
    The cases of `complLoop`, here and wherever it is walked: the bottom is reached (1); the parent is a complete control:
    stop, `{` announced (2); a complete test: go on (3); the dry `check_next_arg` of an incomplete parent raises (4),
    declines: `ok = false` (5), takes the test and is still incomplete: stop (6), takes it and is complete: go on (7);
    the parent is neither control nor test: go on (8). -/
theorem complLoop_inv {I : List Frame → Prop}
    (pop : ∀ {f p r}, I (f :: p :: r) → I (plug p f.attach (Frame.toNode f) :: r))
    (dry : ∀ {p r ld n st' pl}, I (p :: r) →
      checkNextArg p.d ld p.st .test (.test n) (add := false) = .ok (some (st', pl)) → I ({ p with st := st' } :: r))
    {ld : List Bytes} {f : Frame} {rest : List Frame} (h : I (f :: rest)) {o : ComplOut}
    (ho : complLoop ld f rest = .ok o) : I o.stack := by
  fun_induction complLoop ld f rest generalizing o with
  | case1 f => cases ho; exact h
  | case2 | case5 => cases ho; exact pop h
  | case3 f p rest p' _ _ _ ih => exact ih (pop h) ho
  | case4 => cases ho
  | case6 f p rest p' _ _ st' pl hcna => cases ho; exact dry (pop h) hcna
  | case7 f p rest p' _ _ st' pl hcna => rename_i ih; exact ih (dry (pop h) hcna) ho
  | case8 f p rest p' _ ih => exact ih (pop h) ho

theorem completion_false {s s' : PState} {ts : Bool} (h : completion s ts = .ok (false, s')) :
    ∃ g r, s'.stack = g :: r ∧ Frame.complete g = false := by
  obtain ⟨hb, _⟩ | ⟨f, rest, o, _, ho, hok, hs⟩ := (completion_ok h).2
  · cases hb
  · exact hs ▸ complLoop_false ho hok

theorem completion_leaf {s : PState} {f : Frame} {rest : List Frame} (hs : s.stack = f :: rest)
    (hk : f.d.kind ≠ .test) (hc : f.d.acceptChildren = false) : completion s false = .ok (true, s) := by
  unfold completion
  rw [hs]
  cases hcm : Frame.complete f
  · simp [hcm]
  · have : (f.d.kind == .action || (f.d.kind == .control && !f.d.acceptChildren)) = true := by
      cases hkk : f.d.kind <;> simp [hkk, hc] at hk ⊢
    simp [hcm, this]

/-- the argument type under which a value token is offered to `check_next_arg` -/
def valueType : TokKind → Option ArgType
  | .string | .multiline => some .string
  | .number => some .number
  | .tag => some .tag
  | _ => none

/-- how `__command` finishes after the direct effect of the token -/
inductive Closing where
  | done
  | completion (testsemicolon : Bool)
  | up

def Closing.run : Closing → PState → PState → Prop
  | .done, mid, s' => s' = mid
  | .completion ts, mid, s' => Machine.completion mid ts = .ok (true, s')
  | .up, mid, s' => Machine.up mid = .ok s'

structure SameCtl (s s' : PState) : Prop where
  cstate : s'.cstate = s.cstate
  curlist : s'.curlist = s.curlist
  brackets : s'.brackets = s.brackets
  loaded : s'.loaded = s.loaded

theorem Closing.run_ctl {c : Closing} {mid s' : PState} (h : c.run mid s') : SameCtl mid s' := by
  cases c with
  | done => cases h; exact ⟨rfl, rfl, rfl, rfl⟩
  | completion ts => rw [(completion_ok h).1]; exact ⟨rfl, rfl, rfl, rfl⟩
  | up => obtain ⟨_, _, _, hp⟩ := up_ok h; rw [hp.frame]; exact ⟨rfl, rfl, rfl, rfl⟩

/-- the direct effect of a token that `__command` accepts: the state `mid` it builds before it finishes with `c`.
    `rew`: the token is delivered again. -/
inductive Direct (T : Table) (s : PState) (text : Bytes) : TokKind → PState → Closing → Bool → Prop
  /-- `}` ends a block: its owner is popped -/
  | closeBlock {b} : s.cstate = .none → s.brackets = .right_cbracket :: b →
      Direct T s text .right_cbracket { s with brackets := b } .up false
  /-- a command name at top level -/
  | command {d} : s.cstate = .none → getCommand T s.loaded text = .ok d → d.kind ≠ .test → s.stack = [] →
      followOk d (lastName s.result) = true →
      Direct T s text .identifier
        { s with expected := (announce s d).expected, stack := [{ d := d, attach := .top }], cstate := .arguments }
        .done false
  /-- a command name inside a block -/
  | child {d f rest} : s.cstate = .none → getCommand T s.loaded text = .ok d → d.kind ≠ .test → s.stack = f :: rest →
      f.d.acceptChildren = true → followOk d (lastName f.children) = true →
      Direct T s text .identifier
        { s with expected := (announce s d).expected, stack := { d := d, attach := .child } :: f :: rest,
                 cstate := .arguments } .done false
  /-- a string inside `[ … ]` (that it is valid UTF-8 is recorded; nothing uses it so far, nor in `value`) -/
  | item : s.cstate = .stringlist → Utf8.valid text = true →
      Direct T s text .string { s with curlist := s.curlist ++ [text], expected := some [.comma, .right_bracket] }
        .done false
  | itemComma : s.cstate = .stringlist → Direct T s text .comma { s with expected := some [.string] } .done false
  /-- `]`: the collected list is offered as one argument -/
  | closeList {b f rest st' pl} : s.cstate = .stringlist → s.brackets = .right_bracket :: b → s.stack = f :: rest →
      checkNextArg f.d s.loaded f.st .stringlist (.strs s.curlist) = .ok (some (st', pl)) →
      Direct T s text .right_bracket
        { s with brackets := b, stack := { f with st := st' } :: rest, cstate := .arguments } (.completion true) false
  /-- a test name among the arguments: offered as a placeholder, then pushed -/
  | test {d f rest st' pl} : s.cstate = .arguments → s.stack = f :: rest →
      getCommand T s.loaded text = .ok d → d.kind = .test →
      checkNextArg f.d s.loaded f.st .test (.test (.mk d.name [] [] [] [])) = .ok (some (st', pl)) →
      Direct T s text .identifier
        { s with expected := d.expectedFirst,
                 stack := { d := d, attach := .place pl } :: { f with st := st' } :: rest } (.completion false) false
  | openTests {f rest} : s.cstate = .arguments → s.stack = f :: rest → f.d.variableArgs = true →
      Direct T s text .left_parenthesis
        { s with brackets := .right_parenthesis :: s.brackets, expected := some [.identifier] } .done false
  | testComma {f rest} : s.cstate = .arguments → s.stack = f :: rest → f.d.variableArgs = true →
      Direct T s text .comma { s with expected := some [.identifier] } .done false
  /-- `)` ends a test list: its owner is popped -/
  | closeTests {b} : s.cstate = .arguments → s.brackets = .right_parenthesis :: b →
      Direct T s text .right_parenthesis { s with brackets := b } .up false
  /-- a string, multi-line string, number or tag -/
  | value {k t f rest st' pl} : s.cstate = .arguments → valueType k = some t →
      (t = .string → Utf8.valid text = true) → s.stack = f :: rest →
      checkNextArg f.d s.loaded f.st t (.str text) = .ok (some (st', pl)) →
      Direct T s text k { s with stack := { f with st := st' } :: rest } (.completion false) false
  | openList : s.cstate = .arguments →
      Direct T s text .left_bracket (openList s) (.completion false) false
  /-- `{`, `,` or `)` where `hasflag` could still take an argument: it re-assigns what it has and the token is
      delivered again -/
  | reassign {k f rest f'} : s.cstate = .arguments →
      k = .left_cbracket ∨ k = .comma ∨ k = .right_parenthesis → s.stack = f :: rest → f.d.nonDet = true →
      Machine.reassign f = some f' →
      Direct T s text k { s with stack := f' :: rest } (.completion false) true
  /-- `{` after a complete control command -/
  | openBlock {f rest} : s.cstate ≠ .none → s.stack = f :: rest → f.d.kind = .control → f.d.acceptChildren = true →
      Frame.complete f = true →
      Direct T s text .left_cbracket { s with brackets := .right_cbracket :: s.brackets, cstate := .none } .done false
  /-- `;` ends a command without block: its completion callback runs and it is popped -/
  | endCommand {f rest} : s.cstate ≠ .none → s.stack = f :: rest → f.d.kind ≠ .test → f.d.acceptChildren = false →
      Direct T s text .semicolon { s with cstate := .none, loaded := completeCb f s.loaded } .up false

/-- `commandFn T s k text = .ret true s' rew`: the direct effect, then the closing operation -/
inductive Eff (T : Table) (s : PState) (text : Bytes) (k : TokKind) (s' : PState) (rew : Bool) : Prop
  | mk {mid c} : Direct T s text k mid c rew → c.run mid s' → Eff T s text k s' rew

section
variable {T : Table} {s s' : PState} {k : TokKind} {text : Bytes} {rew : Bool}

theorem announce_eq (s : PState) (d : CmdDef) : announce s d = { s with expected := (announce s d).expected } := by
  unfold announce; split <;> rfl

theorem startCommand_eff (hcs : s.cstate = .none) (h : startCommand T s k text = .ret true s' rew) :
    Eff T s text k s' rew := by
  revert h
  fun_cases startCommand T s k text with
  | case3 hk s1 hp s2 hu =>
    intro h; cases h
    cases eq_of_beq hk
    obtain ⟨b, hb, rfl⟩ := popBracket_some hp
    refine ⟨.closeBlock hcs hb, ?_⟩
    obtain ⟨_, _, _, hp⟩ := up_ok hu
    -- the `cstate := .none` that `startCommand` writes after `up` changes nothing: `up` keeps `cstate`, and it was `.none`
    show up _ = .ok _
    rw [hu, hp.frame, hcs]
  | case8 _ hk d hd hkind hfo =>
    intro h
    cases Decidable.of_not_not (fun hne => hk (bne_iff_ne.mpr hne))
    have hkind : d.kind ≠ .test := fun hk => hkind (by rw [hk]; rfl)
    have hfo : followOk d (prevName (announce s d)) = true := by simpa using hfo
    rw [announce_eq] at h hfo
    unfold prevName at hfo
    unfold pushCommand at h
    simp only at h hfo
    split at h
    · rename_i hnil
      cases h
      rw [hnil] at hfo
      exact ⟨.command hcs hd hkind hnil hfo, rfl⟩
    · rename_i f rest hcons
      rw [hcons] at hfo
      split at h
      · cases h
      · rename_i hac
        cases h
        exact ⟨.child hcs hd hkind hcons (by simpa using hac) hfo, by rw [hcons]; rfl⟩
  | _ => nofun

theorem argThenCompl_eff (hcs : s.cstate = .arguments) (h : argThenCompl s k text = .ret true s' rew) :
    Eff T s text k s' rew := by
  have ⟨s1, h1, hc⟩ : ∃ s1, argumentFn s k text = .ret true s1 rew ∧ completion s1 false = .ok (true, s') := by
    obtain h | ⟨hb, _⟩ := thenCompl_ret h
    · exact h
    · cases hb
  have value : ∀ t, valueType k = some t → (t = .string → Utf8.valid text = true) →
      offer s t (.str text) = .ret true s1 rew → Eff T s text k s' rew := by
    intro t hkt hv ho
    obtain ⟨rfl, pl, hcc⟩ := offer_ret ho
    obtain ⟨f', rest', hst', ⟨hb, _⟩ | ⟨_, st', hcna, rfl⟩⟩ := curCheck_ok hcc
    · cases hb
    · exact ⟨.value hcs hkt hv hst' hcna, hc⟩
  have re : k = .left_cbracket ∨ k = .comma ∨ k = .right_parenthesis → tryReassign s = .ret true s1 rew →
      Eff T s text k s' rew := by
    intro hk hr
    obtain ⟨hb, _⟩ | ⟨_, rfl, f', rest', f'', hst', hnd, hre, rfl⟩ := tryReassign_ret hr
    · cases hb
    · exact ⟨.reassign hcs hk hst' hnd hre, hc⟩
  have utf : ∀ {r}, (if (!Utf8.valid text) = true then FnResult.err .decodeError false else r) = .ret true s1 rew →
      Utf8.valid text = true ∧ r = .ret true s1 rew := by
    intro r hr
    cases hv : Utf8.valid text <;> simp [hv] at hr
    exact ⟨rfl, hr⟩
  unfold argumentFn at h1
  cases k with
  | string => obtain ⟨hv, h1⟩ := utf h1; exact value _ rfl (fun _ => hv) h1
  | multiline => obtain ⟨hv, h1⟩ := utf h1; exact value _ rfl (fun _ => hv) h1
  | number => exact value _ rfl nofun h1
  | tag => exact value _ rfl nofun h1
  | left_bracket => cases h1; exact ⟨.openList hcs, hc⟩
  | left_cbracket => exact re (.inl rfl) h1
  | comma => exact re (.inr (.inl rfl)) h1
  | right_parenthesis => exact re (.inr (.inr rfl)) h1
  | _ => cases h1

theorem pushTest_eff (hcs : s.cstate = .arguments) (h : pushTest T s text = .ret true s' rew) :
    Eff T s text .identifier s' rew := by
  revert h
  fun_cases pushTest T s text with
  | case5 d hd hkind s1 pl hcc =>
    intro h
    obtain ⟨hc, rfl⟩ := complThen_ret h
    obtain ⟨f, rest, hst, ⟨hb, _⟩ | ⟨_, st', hcna, rfl⟩⟩ := curCheck_ok hcc
    · cases hb
    · exact ⟨.test hcs hst hd (by simpa using hkind) hcna, hc⟩
  | case3 _ _ _ e => cases e <;> nofun
  | _ => nofun

theorem closeParen_eff (hcs : s.cstate = .arguments) (h : closeParen s = .ret true s' rew) :
    Eff T s text .right_parenthesis s' rew := by
  revert h
  fun_cases closeParen s with
  | case3 s1 hp s2 hu =>
    intro h; cases h
    obtain ⟨b, hb, rfl⟩ := popBracket_some hp
    exact ⟨.closeTests hcs hb, hu⟩
  | _ => nofun

theorem argumentsFn_eff (hcs : s.cstate = .arguments)
    (h : argumentsFn T s k text = .ret true s' rew) : Eff T s text k s' rew := by
  revert h
  fun_cases argumentsFn T s k text with
  | case1 => nofun
  | case2 f rest hst => exact pushTest_eff hcs
  | case3 f rest hst hv => intro h; cases h; exact ⟨.openTests hcs hst hv, rfl⟩
  | case5 f rest hst hv => intro h; cases h; exact ⟨.testComma hcs hst hv, rfl⟩
  | case8 f rest hst _ => exact closeParen_eff hcs
  | case4 | case6 | case7 | case9 => exact argThenCompl_eff hcs

theorem stringlistFn_eff (hl : s.cstate = .stringlist) (h : stringlistFn s k text = .ret true s' rew) :
    Eff T s text k s' rew := by
  revert h
  fun_cases stringlistFn s k text with
  | case2 hv => intro h; cases h; exact ⟨.item hl (by simpa using hv), rfl⟩
  | case3 => intro h; cases h; exact ⟨.itemComma hl, rfl⟩
  | case7 s1 s2 pl hcc hp =>
    intro h
    simp only [hp, hcc] at h
    obtain ⟨b, hb, rfl⟩ := popBracket_some hp
    obtain ⟨hc, rfl⟩ := complThen_ret h
    obtain ⟨f, rest, hst, ⟨hb', _⟩ | ⟨_, st', hcna, rfl⟩⟩ := curCheck_ok hcc
    · cases hb'
    · exact ⟨.closeList hl hb hst hcna, hc⟩
  | case5 s1 e hcc hp => intro h; simp only [hp, hcc] at h; cases e <;> cases h
  | case6 s1 s2 pl hcc hp => intro h; simp only [hp, hcc] at h; cases h
  | case4 hp => intro h; simp only [hp] at h; cases h
  | _ => nofun

theorem closeCommand_ret {s2 : PState} {rew2 : Bool} (h : closeCommand s2 k rew2 = .ret true s' rew) :
    rew = rew2 ∧ ∃ f rest, s2.stack = f :: rest ∧
      ((k = .left_cbracket ∧ f.d.kind = .control ∧ f.d.acceptChildren = true ∧ Frame.complete f = true ∧
          s' = { s2 with brackets := .right_cbracket :: s2.brackets, cstate := .none }) ∨
       (k = .semicolon ∧ f.d.kind ≠ .test ∧ f.d.acceptChildren = false ∧
          up { s2 with cstate := .none, loaded := completeCb f s2.loaded } = .ok s')) := by
  revert h
  fun_cases closeCommand s2 k rew2 with
  | case2 hk f rest hst hf =>
    intro h; cases h
    simp only [Bool.and_eq_true, beq_iff_eq] at hf
    exact ⟨rfl, f, rest, hst, .inl ⟨eq_of_beq hk, hf.1.1, hf.1.2, hf.2, rfl⟩⟩
  | case10 _ hk f rest hst hf s3 hc g rest' hg _ s4 hu =>
    intro h; cases h
    simp only [Bool.or_eq_true, beq_iff_eq, not_or, Bool.not_eq_true] at hf
    -- the completion check of such a command changes nothing, so the frame popped is `f`
    cases (completion_leaf (s := { s2 with cstate := .none }) hst hf.1 hf.2).symm.trans hc
    cases hst.symm.trans hg
    exact ⟨rfl, f, rest, hst, .inr ⟨eq_of_beq hk, hf.1, hf.2, hu⟩⟩
  | case6 _ _ _ _ _ _ e => cases e <;> nofun
  | _ => nofun

/-- a state function that declines leaves the state as it was, unless it rewinds — and then neither `{` nor `;`
    is accepted after it -/
theorem stateFn_declined {s2 : PState} {rew2 : Bool} (h : stateFn T s k text = .ret false s2 rew2)
    (hc : closeCommand s2 k rew2 = .ret true s' rew) : s2 = s ∧ rew2 = false := by
  obtain ⟨_, f2, rest2, hst2, hk⟩ := closeCommand_ret hc
  have hk' : k = .left_cbracket ∨ k = .semicolon := hk.imp (·.1) (·.1)
  unfold stateFn at h
  split at h
  · rcases hk' with rfl | rfl <;> cases h <;> exact ⟨rfl, rfl⟩
  · unfold argumentsFn at h
    split at h
    · cases h
    · rcases hk with ⟨rfl, _, _, hcomp, _⟩ | ⟨rfl, _⟩
      · obtain ⟨s1, _, hc1⟩ | ⟨_, hr⟩ := thenCompl_ret (r := tryReassign s) h
        · obtain ⟨g, r, hg, hinc⟩ := completion_false hc1
          rw [hst2] at hg; cases hg
          rw [hcomp] at hinc; cases hinc
        · obtain ⟨_, rfl, rfl⟩ | ⟨hb, _⟩ := tryReassign_ret hr
          · exact ⟨rfl, rfl⟩
          · cases hb
      · cases h; exact ⟨rfl, rfl⟩

theorem commandFn_eff (h : commandFn T s k text = .ret true s' rew) : Eff T s text k s' rew := by
  unfold commandFn at h
  split at h
  · rename_i hcs
    exact startCommand_eff hcs h
  · rename_i hn
    split at h
    · rename_i s2 rew2 hfn
      obtain ⟨rfl, rfl⟩ := stateFn_declined hfn h
      obtain ⟨rfl, f, rest, hst, ⟨rfl, h1, h2, h3, rfl⟩ | ⟨rfl, h1, h2, hu⟩⟩ := closeCommand_ret h
      · exact ⟨.openBlock hn hst h1 h2 h3, rfl⟩
      · exact ⟨.endCommand hn hst h1 h2, hu⟩
    · unfold stateFn at h
      split at h
      · rename_i hl; exact stringlistFn_eff hl h
      · rename_i hl
        have hcs : s.cstate = .arguments := by
          cases hc : s.cstate with
          | none => exact absurd hc hn
          | arguments => rfl
          | stringlist => exact absurd hc hl
        exact argumentsFn_eff hcs h

end

/-- what `step` did with a token it did not reject; `rew` = the token comes again -/
inductive StepEff (T : Table) (s : PState) (tok : Tok) : PState → Bool → Prop
  | hash : tok.kind = .hash_comment →
      StepEff T s tok { s with comments := s.comments ++ [stripWs tok.text] } false
  | skip : tok.kind = .bracket_comment → StepEff T s tok s false
  | tok {s' rew} : tok.kind ≠ .hash_comment → tok.kind ≠ .bracket_comment →
      (∀ exp, s.expected = some exp → tok.kind ∈ exp) →
      Eff T { s with expected := none } tok.text tok.kind s' rew → StepEff T s tok s' rew

variable {T : Table} {s s' : PState} {text : Bytes} {rew : Bool}

theorem step_eff {tok : Tok} (h : step T s tok = .ok s' ∧ rew = false ∨ step T s tok = .rewind s' ∧ rew = true) :
    StepEff T s tok s' rew := by
  unfold step at h
  split at h
  · rename_i hk
    obtain ⟨h, rfl⟩ | ⟨h, _⟩ := h <;> cases h
    exact .hash hk
  · rename_i hk
    obtain ⟨h, rfl⟩ | ⟨h, _⟩ := h <;> cases h
    exact .skip hk
  · rename_i h1 h2
    unfold stepTok at h
    split at h
    · obtain ⟨h, _⟩ | ⟨h, _⟩ := h <;> cases h
    · rename_i s1 hadm
      obtain ⟨rfl, hexp⟩ := admitTok_some hadm
      refine .tok (h1 · ) (h2 ·) hexp (commandFn_eff ?_)
      unfold ofFn at h
      split at h <;> obtain ⟨h, rfl⟩ | ⟨h, rfl⟩ := h <;> cases h <;> assumption

theorem deliver_eff {tok : Tok} (h : deliver T s tok = .ok s') :
    StepEff T s tok s' false ∨ ∃ s1, StepEff T s tok s1 true ∧ StepEff T s1 tok s' false := by
  revert h
  fun_cases deliver T s tok with
  | case1 s' h1 => intro h; cases h; exact .inl (step_eff (.inl ⟨h1, rfl⟩))
  | case4 s1 h1 s'' h2 => intro h; cases h; exact .inr ⟨s1, step_eff (.inr ⟨h1, rfl⟩), step_eff (.inl ⟨h2, rfl⟩)⟩
  | _ => nofun

theorem feed_induction {I : PState → Prop} {toks : List Tok} {n m : Nat}
    (hstep : ∀ tok ∈ toks, ∀ s s' rew, I s → StepEff T s tok s' rew → I s') (h0 : I s)
    (h : feed T toks s n = .done s' m) : I s' := by
  induction toks generalizing s n with
  | nil => cases h; exact h0
  | cons tok rest ih =>
    obtain ⟨s1, hd, h⟩ := feed_cons_done.mp h
    refine ih (fun t ht => hstep t (List.mem_cons_of_mem _ ht)) ?_ h
    obtain h1 | ⟨s0, h1, h2⟩ := deliver_eff hd
    · exact hstep tok List.mem_cons_self _ _ _ h0 h1
    · exact hstep tok List.mem_cons_self _ _ _ (hstep tok List.mem_cons_self _ _ _ h0 h1) h2

end Machine
