import SieveModel.Model.Factory
import SieveModel.Lemmas.Reprint
/-!
# What the factory quotes is one string token

`Factory.quote v` — the value between double quotes, every backslash and double quote escaped — is read by the lexer as
exactly one string token, whatever bytes `v` holds (quotes, backslashes, commas, brackets, semicolons, line breaks, non-ASCII)
and whatever follows; a generated list `[…]` lexes to a bracket, one string token per value with commas between, a bracket.
So no value can end its string early and continue as script text.
-/
namespace QuoteLex
open Lex Factory Reprint

theorem escape_body (v : Bytes) : StrBody (escape v) := by
  fun_induction escape v with
  | case1 => exact .nil
  | case2 c cs h92 ih => exact .esc (by decide) ih
  | case3 c cs h92 h34 ih => exact .esc (by decide) ih
  | case4 c cs h92 h34 ih => exact .plain (by simpa using h34) (by simpa using h92) ih

theorem stringEnd_escape (v rest : Bytes) : stringEnd (escape v ++ 34 :: rest) = some ((escape v).length + 1) :=
  (escape_body v).stringEnd rest

/-- **a quoted value is one string token**, whatever the value and whatever follows it -/
theorem quote_one (v rest : Bytes) : one (quote v ++ rest) = some (.string, (quote v).length) := by
  have := (Rule.string _ (stringEnd_escape v rest)).one
  simpa [quote] using this

theorem quote_genuine (v : Bytes) : Genuine (.string, quote v) := by
  simpa [Genuine] using quote_one v []

/-- **a generated list lexes to one string token per value**: `[`, the quoted values with commas between, `]` — and nothing else,
    whatever the values hold -/
theorem quoteList_lexes (vs : List Bytes) :
    ∃ r, lex (quoteList vs) = some r ∧ r.err = none ∧
      r.toks.map kt = (TokKind.left_bracket, [91]) :: commaK (vs.map (fun v => (TokKind.string, quote v))) ++ [(TokKind.right_bracket, [93])] := by
  obtain ⟨h1, _⟩ := sepBy_pw (PWc_punct 44 .comma (by decide)) (headSep_cons 44 [] (by decide)) (by simp) (j := ToList.joinComma)
    rfl (fun _ => rfl) (fun _ _ _ => rfl) (vs.map quote) (by intro x hx; obtain ⟨v, _, rfl⟩ := List.mem_map.mp hx; exact quote_genuine v)
  simpa [quoteList, Function.comp_def] using (h1.between 91 .left_bracket 93 .right_bracket).lex

end QuoteLex
