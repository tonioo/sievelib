import SieveModel.Generated.LexRules
import SieveModel.Generated.MsConsts
import SieveModel.Model.Lexer
import SieveModel.Model.Client
/-!
The rule lists regenerated from `/repo` on every run are the ones the lexer and client models were written for.
Both sides are literals, so each comparison is `rfl`; the Props files cite these under the property's own name.
-/
namespace Generated

theorem lexer_is_the_modelled_one :
    lexRuleNames = TokKind.all.map TokKind.name ∧ lexRulePatterns = TokKind.patterns ∧
      parserPatterns = TokKind.auxPatterns := ⟨rfl, rfl, rfl⟩

theorem client_patterns_are_the_modelled_ones : clientPatterns = Client.patterns := rfl

end Generated
