import SieveModel.Lemmas.Relex
import SieveModel.Lemmas.Typed
import SieveModel.Lemmas.Roles
import SieveModel.Lemmas.SerLemmas
import SieveModel.Lemmas.Printable
/-!
# What the printer writes lexes back to the tokens it was given

`flatNs T r`: the token sequence of a forest — per node its name, the recorded values in definition order (a value as
the token it was read from, a list between brackets with commas, tests between parentheses), `;` or a braced block.
`nodes_pw`: for a forest `r` of well-typed commands, if `Ser.nodes T i r = some out` then `out` is exactly those tokens
woven with white space, every token followed by a byte that cannot continue it (`PWc`, in terms of `Lex.SWeave`), hence
(`PWc.lex`, by `Lex.lex_of_sweave`) the lexer reads `out` without error as `flatNs T r`.  Conditions on the table
(`Ctx`: the decidable `TableL`, with `Printable.TableP`): names are identifiers, only controls and tests take blocks, a
slot that admits strings prints them as strings (so a multi-line block gets its line feed) and is not a tag slot.
-/
namespace Reprint
open Lex Ser

/-- an *open* piece of output: these tokens, in front of anything that starts with a separator -/
def PW (ks : List KT) (b : Bytes) : Prop :=
  ∀ ks' rest, SWeave ks' rest → HeadSep rest → SWeave (ks ++ ks') (b ++ rest)

/-- a *closed* piece: these tokens in front of anything (it ends in punctuation or white space) -/
def PWc (ks : List KT) (b : Bytes) : Prop :=
  ∀ ks' rest, SWeave ks' rest → SWeave (ks ++ ks') (b ++ rest)

theorem PWc.toPW {ks : List KT} {b : Bytes} (h : PWc ks b) : PW ks b := fun ks' rest hr _ => h ks' rest hr

theorem PW_nil : PW [] [] := fun _ _ hr _ => hr
theorem PWc_nil : PWc [] [] := fun _ _ hr => hr

theorem PWc_ws (w : Bytes) (hw : ∀ c ∈ w, B.isWs c = true) : PWc [] w :=
  fun _ _ hr => hr.prepend w hw

theorem PWc.append {k1 k2 : List KT} {a b : Bytes} (ha : PWc k1 a) (hb : PWc k2 b) : PWc (k1 ++ k2) (a ++ b) := by
  intro ks' rest hr
  have := ha _ _ (hb ks' rest hr)
  simpa [List.append_assoc] using this

theorem PWc.append_PW {k1 k2 : List KT} {a b : Bytes} (ha : PWc k1 a) (hb : PW k2 b) : PW (k1 ++ k2) (a ++ b) := by
  intro ks' rest hr hs
  have := ha _ _ (hb ks' rest hr hs)
  simpa [List.append_assoc] using this

theorem PW.append {k1 k2 : List KT} {a b : Bytes} (ha : PW k1 a) (hb : PW k2 b) (hh : HeadSep b) : PW (k1 ++ k2) (a ++ b) := by
  intro ks' rest hr hs
  have := ha _ _ (hb ks' rest hr hs) (headSep_append hh hs)
  simpa [List.append_assoc] using this

theorem PW.append_c {k1 k2 : List KT} {a b : Bytes} (ha : PW k1 a) (hb : PWc k2 b) (hh : HeadSep b) (hne : b ≠ []) :
    PWc (k1 ++ k2) (a ++ b) := by
  intro ks' rest hr
  have := ha _ _ (hb ks' rest hr) (headSep_append_ne hh hne)
  simpa [List.append_assoc] using this

theorem PWc_punct (c : UInt8) (k : TokKind) (h : single c = some k) : PWc [(k, [c])] [c] := by
  intro ks' rest hr
  have hsep : Lex.Sep k rest := by have := single_punct h; cases k <;> first | trivial | cases this
  exact SWeave.tok (Rule.punct [] h).one hsep hr

theorem sep_of_headSep (k : TokKind) (rest : Bytes) (h1 : k ≠ .multiline) (h2 : k ≠ .hash_comment) (h : HeadSep rest) :
    Lex.Sep k rest := by
  cases k <;> simp_all [Lex.Sep]

theorem PW_tok (k : TokKind) (txt : Bytes) (hg : Genuine (k, txt)) (h1 : k ≠ .multiline) (h2 : k ≠ .hash_comment) :
    PW [(k, txt)] txt :=
  fun _ rest hr hs => SWeave.tok hg (sep_of_headSep k rest h1 h2 hs) hr

theorem PWc_tok_lf (k : TokKind) (txt : Bytes) (hg : Genuine (k, txt)) : PWc [(k, txt)] (txt ++ [10]) := by
  intro ks' rest hr
  simpa using SWeave.tok hg (sep_lf k rest) (hr.prepend [10] (by decide))

theorem PWc.lex {ks : List KT} {b : Bytes} (h : PWc ks b) : ∃ r, lex b = some r ∧ r.err = none ∧ r.toks.map kt = ks := by
  have := h [] [] .empty
  rw [List.append_nil, List.append_nil] at this
  exact lex_of_sweave _ _ this

theorem PWc_punct_ws (c : UInt8) (k : TokKind) (w : Bytes) (h : single c = some k := by decide)
    (hw : ∀ x ∈ w, B.isWs x = true := by decide) : PWc [(k, [c])] (c :: w) :=
  (PWc_punct c k h).append (PWc_ws w hw)

theorem PWc_comma_sp : PWc [(TokKind.comma, [44])] [44, 32] := PWc_punct_ws 44 .comma [32]

theorem PWc_sp : PWc [] [32] := PWc_ws [32] (by decide)

/-- an open piece between two punctuation bytes is closed -/
theorem PW.between {ks : List KT} {b : Bytes} (h : PW ks b) (c1 : UInt8) (k1 : TokKind) (c2 : UInt8) (k2 : TokKind)
    (h1 : single c1 = some k1 := by decide) (h2 : single c2 = some k2 := by decide) (hs : sepOK c2 = true := by decide) :
    PWc ((k1, [c1]) :: ks ++ [(k2, [c2])]) ([c1] ++ b ++ [c2]) :=
  (PWc_punct c1 k1 h1).append (h.append_c (PWc_punct c2 k2 h2) (headSep_cons c2 [] hs) (List.cons_ne_nil _ _))

theorem stringEnd_quote (t : Bytes) (n : Nat) (h : stringEnd t = some n) : ∃ p, t.take n = p ++ [34] := by
  obtain ⟨b, rest, rfl, rfl, _⟩ := stringEnd_some h
  exact ⟨b, by rw [List.take_length_add_append]; rfl⟩

/-- a string token is a quoted string: it is printed verbatim as a list item -/
theorem renderItem_string (v : Bytes) (h : Genuine (.string, v)) : renderItem v = v := by
  obtain ⟨rest, m, rfl, hm, hn⟩ := one_string h
  obtain ⟨p, hp⟩ := stringEnd_quote _ _ hm
  rw [show m = rest.length from Nat.succ.inj hn.symm, List.take_length] at hp
  subst hp
  exact renderItem_quoted p

theorem multiline_head (v : Bytes) (h : Genuine (.multiline, v)) : v.head? = some 116 := by
  obtain ⟨r, hr⟩ := (isText_iff _).mp (one_multiline h)
  have : (TokKind.multiline, v).2 = v := rfl
  rw [this] at hr; rw [hr]; rfl

/-- the kind a value is read as -/
def kindOf (v : Bytes) : TokKind :=
  match one v with
  | some (k, _) => k
  | none => .string

theorem kindOf_genuine (k : TokKind) (v : Bytes) (h : Genuine (k, v)) : kindOf v = k := by
  have : one v = some (k, v.length) := h
  simp [kindOf, this]

def commaK : List KT → List KT
  | [] => []
  | [a] => [a]
  | a :: rest => a :: (TokKind.comma, [44]) :: commaK rest

def flatList (items : List Bytes) : List KT :=
  (TokKind.left_bracket, [91]) :: commaK (items.map (fun v => (TokKind.string, renderItem v))) ++ [(TokKind.right_bracket, [93])]

def lookupK (l : List (String × List KT)) (k : String) : Option (List KT) := (l.find? (fun p => p.1 == k)).map (·.2)

/-- the tokens of the arguments, in definition order (mirrors `Ser.assemble`) -/
def asm : List ArgDef → List (String × List KT) → List (String × List KT) → List KT
  | [], _, _ => []
  | d :: rest, fa, fe =>
    match lookupK fa d.name with
    | none => asm rest fa fe
    | some v =>
      v ++ (if decide (ArgType.tag ∈ d.types) then (match lookupK fe d.name with | some p => p | none => []) else []) ++
        asm rest fa fe

mutual
def flatN (T : Table) : Node → List KT
  | .mk name args extra children _ =>
    match T.byName name with
    | none => []
    | some d =>
      let head := (TokKind.identifier, name) :: asm d.args (flatAs T d false args) (flatAs T d true extra)
      if !d.acceptChildren then (if d.kind != .test then head ++ [(TokKind.semicolon, [59])] else head)
      else if d.kind != .control then head
      else head ++ [(TokKind.left_cbracket, [123])] ++ flatNs T children ++ [(TokKind.right_cbracket, [125])]

def flatNs (T : Table) : List Node → List KT
  | [] => []
  | n :: rest => flatN T n ++ flatNs T rest

def flatTs (T : Table) : List Node → List KT
  | [] => []
  | [n] => flatN T n
  | n :: m :: rest => flatN T n ++ [(TokKind.comma, [44])] ++ flatTs T (m :: rest)

/-- (`isExtra` is not looked at: the tokens of an argument and of a tag parameter are formed alike; it is there to
    mirror `Ser.renderArg`) -/
def flatA (T : Table) (d : CmdDef) (isExtra : Bool) : Arg → String × List KT
  | .str k v => (k, [(kindOf v, v)])
  | .strs k items =>
    match slotOf d k with
    | none => (k, [])
    | some _ => (k, flatList items)
  | .test k n => (k, flatN T n)
  | .tests k l =>
    match slotOf d k with
    | none => (k, [])
    | some _ => (k, [(TokKind.left_parenthesis, [40])] ++ flatTs T l ++ [(TokKind.right_parenthesis, [41])])

def flatAs (T : Table) (d : CmdDef) (isExtra : Bool) : List Arg → List (String × List KT)
  | [] => []
  | a :: rest => flatA T d isExtra a :: flatAs T d isExtra rest
end

theorem string_head (x : Bytes) (h : Genuine (.string, x)) : HeadSep x := by
  obtain ⟨r, _, rfl, _⟩ := one_string h
  exact headSep_cons 34 r (by decide)

/-- string tokens joined by a separator that reads as a comma (`j` is the joining function, given by its equations) -/
theorem sepBy_pw {sep : Bytes} (hsep : PWc [(TokKind.comma, [44])] sep) (hh : HeadSep sep) (hne : sep ≠ [])
    {j : List Bytes → Bytes} (h0 : j [] = []) (h1 : ∀ a, j [a] = a) (h2 : ∀ a b r, j (a :: b :: r) = a ++ sep ++ j (b :: r)) :
    ∀ xs : List Bytes, (∀ x ∈ xs, Genuine (.string, x)) →
      PW (commaK (xs.map (fun x => (TokKind.string, x)))) (j xs) ∧ HeadSep (j xs)
  | [], _ => by rw [h0]; exact ⟨PW_nil, headSep_nil⟩
  | [a], h => by
    have ha := h a (List.mem_cons_self ..)
    rw [h1]; exact ⟨PW_tok .string a ha (by simp) (by simp), string_head a ha⟩
  | a :: b :: r, h => by
    have ha := h a (List.mem_cons_self ..)
    have ih := (sepBy_pw hsep hh hne h0 h1 h2 (b :: r) (fun x hx => h x (List.mem_cons_of_mem _ hx))).1
    have hne' : a ≠ [] := by obtain ⟨r, _, rfl, _⟩ := one_string ha; simp
    rw [h2]
    exact ⟨((PW_tok .string a ha (by simp) (by simp)).append_c hsep hh hne).append_PW ih,
      headSep_append_ne (headSep_append_ne (string_head a ha) hne') (by simp [hne'])⟩

theorem renderList_pw (items : List Bytes) (h : ∀ x ∈ items, Genuine (.string, x)) :
    PWc (flatList items) (renderList items) := by
  have e1 : items.map renderItem = items :=
    (List.map_congr_left (fun x hx => renderItem_string x (h x hx))).trans (List.map_id _)
  have e2 : items.map (fun v => ((TokKind.string, renderItem v) : KT)) = items.map (fun v => (TokKind.string, v)) :=
    List.map_congr_left (fun x hx => by rw [renderItem_string x (h x hx)])
  obtain ⟨h1, h2⟩ := sepBy_pw PWc_comma_sp (headSep_cons 44 [32] (by decide)) (by simp) (j := joinCommaSp) rfl (fun _ => rfl)
    (fun _ _ _ => rfl) items h
  simpa [flatList, renderList, e1, e2] using h1.between 91 .left_bracket 93 .right_bracket

/-- a scalar value as the printer writes it, given the token it was read from: verbatim, or (a multi-line block in a slot
    printed as a string) with a line feed after it -/
theorem renderScalar_pw (st : Bool) (k : TokKind) (v : Bytes) (hg : Genuine (k, v)) (hk : k ≠ .hash_comment)
    (hst : k = .multiline → st = true) : PW [(k, v)] (renderScalar st v) := by
  unfold renderScalar
  cases st with
  | false =>
    simp only [Bool.false_eq_true, if_false]
    exact PW_tok k v hg (by intro h; have := hst h; simp at this) hk
  | true =>
    simp only [if_true]
    split
    · rename_i hc
      refine PW_tok k v hg ?_ hk
      intro hm
      subst hm
      rw [multiline_head v hg] at hc
      simp at hc
    · exact (PWc_tok_lf k v hg).toPW

/-- rendered pieces and their tokens, key by key -/
inductive Rel : List (String × Bytes) → List (String × List KT) → Prop
  | nil : Rel [] []
  | cons {x : String × Bytes} {y : String × List KT} {xs : List (String × Bytes)} {ys : List (String × List KT)}
      (hk : x.1 = y.1) (hp : PW y.2 x.2) (h : Rel xs ys) : Rel (x :: xs) (y :: ys)

theorem lookup_rel {ra : List (String × Bytes)} {fa : List (String × List KT)} (h : Rel ra fa) (k : String) :
    (lookupR ra k = none ∧ lookupK fa k = none) ∨ ∃ b ks, lookupR ra k = some b ∧ lookupK fa k = some ks ∧ PW ks b := by
  induction h with
  | nil => exact .inl ⟨rfl, rfl⟩
  | @cons x y xs ys hxy hp _ ih =>
    unfold lookupR lookupK
    rw [List.find?_cons, List.find?_cons, ← hxy]
    cases x.1 == k with
    | true => exact .inr ⟨x.2, y.2, rfl, rfl, hp⟩
    | false => exact ih

theorem asm_step {ks pk krest : List KT} {b pb brest : Bytes} (hp : PW ks b) (hpp : PW pk pb) (hph : HeadSep pb)
    (ih1 : PW krest brest) (ih2 : HeadSep brest) :
    PW (ks ++ pk ++ krest) ([32] ++ b ++ pb ++ brest) ∧ HeadSep ([32] ++ b ++ pb ++ brest) := by
  have h3 := hpp.append ih1 ih2
  have h4 := hp.append h3 (headSep_append hph ih2)
  have h5 := PWc_sp.append_PW h4
  exact ⟨by simpa [List.append_assoc] using h5, headSep_cons 32 _ (by decide)⟩

theorem assemble_pw (defs : List ArgDef) (ra re : List (String × Bytes)) (fa fe : List (String × List KT))
    (h1 : Rel ra fa) (h2 : Rel re fe) :
    PW (asm defs fa fe) (assemble defs ra re) ∧ HeadSep (assemble defs ra re) := by
  induction defs with
  | nil => exact ⟨by simpa [asm, assemble] using PW_nil, by simpa [assemble] using headSep_nil⟩
  | cons d rest ih =>
    obtain ⟨ih1, ih2⟩ := ih
    rcases lookup_rel h1 d.name with ⟨ha, hb⟩ | ⟨b, ks, ha, hb, hp⟩
    · simp only [asm, assemble, ha, hb]
      exact ⟨ih1, ih2⟩
    · simp only [asm, assemble, ha, hb]
      by_cases ht : ArgType.tag ∈ d.types
      · simp only [ht, decide_true, if_true]
        rcases lookup_rel h2 d.name with ⟨ha', hb'⟩ | ⟨b', ks', ha', hb', hp'⟩
        · simp only [ha', hb']
          exact asm_step hp PW_nil headSep_nil ih1 ih2
        · simp only [ha', hb']
          exact asm_step hp (PWc_sp.append_PW hp') (headSep_cons 32 b' (by decide)) ih1 ih2
      · simp only [ht, decide_false, Bool.false_eq_true, if_false]
        exact asm_step hp PW_nil headSep_nil ih1 ih2

/-- a slot that admits a string prints it as a string (so a multi-line block gets its line feed) and is not a tag slot;
    likewise a tag parameter -/
def slotL (a : ArgDef) : Bool :=
  (!Args.validType .string a.types || (!decide (ArgType.tag ∈ a.types) && hasStringType a.types false)) &&
  (match a.extra with
   | none => true
   | some e => !Args.atypeIn .string e || hasStringType e.types e.typeIsStr)

/-- the name is an identifier; only controls and tests take a block -/
def defL (d : CmdDef) : Bool :=
  (Lex.one d.name == some (TokKind.identifier, d.name.length)) &&
  (!d.acceptChildren || d.kind == .control || d.kind == .test) && d.args.all slotL

def TableL (T : Table) : Prop := ∀ d ∈ T, defL d = true
instance (T : Table) : Decidable (TableL T) := by unfold TableL; infer_instance

def NodeOK (TokP : Tok → Prop) (T : Table) (n : Node) : Prop := Typed.NodeT TokP T n ∧ Roles.NodeR T n

def SubOK (TokP : Tok → Prop) (T : Table) : Arg → Prop
  | .test _ n => NodeOK TokP T n
  | .tests _ l => ∀ n ∈ l, NodeOK TokP T n
  | _ => True

def ArgH (TokP : Tok → Prop) (T : Table) (d : CmdDef) (e : Bool) (a : Arg) : Prop :=
  (if e then Typed.ExtraT TokP d a else Typed.ArgT TokP d a) ∧ SubOK TokP T a

structure Ctx (TokP : Tok → Prop) (T : Table) : Prop where
  hL : TableL T
  hP : Printable.TableP T
  hG : ∀ tok, TokP tok → GTok tok

theorem TableL.spec {T : Table} (hL : TableL T) {d : CmdDef} (hd : d ∈ T) :
    one d.name = some (TokKind.identifier, d.name.length) ∧
    (d.acceptChildren = true → d.kind = .control ∨ d.kind = .test) ∧
    ∀ a ∈ d.args, (Args.validType .string a.types = true → ArgType.tag ∉ a.types ∧ hasStringType a.types false = true) ∧
      ∀ e, a.extra = some e → Args.atypeIn .string e = true → hasStringType e.types e.typeIsStr = true := by
  have h := hL d hd
  simp only [defL, Bool.and_eq_true, beq_iff_eq, Bool.or_eq_true, Bool.not_eq_true', List.all_eq_true] at h
  refine ⟨h.1.1, fun hac => ?_, fun a ha => ?_⟩
  · rcases h.1.2 with (h0 | h0) | h0
    · rw [hac] at h0; cases h0
    · exact .inl h0
    · exact .inr h0
  · have hsl := h.2 a ha
    simp only [slotL, Bool.and_eq_true, Bool.or_eq_true, Bool.not_eq_true', decide_eq_false_iff_not] at hsl
    refine ⟨fun hv => ?_, fun e he hat => ?_⟩
    · rcases hsl.1 with h0 | h0
      · rw [hv] at h0; cases h0
      · exact h0
    · have h2 := hsl.2
      rw [he] at h2
      simp only [Bool.or_eq_true, Bool.not_eq_true'] at h2
      rcases h2 with h0 | h0
      · rw [hat] at h0; cases h0
      · exact h0

theorem tokArg_genuine {TokP : Tok → Prop} (hG : ∀ tok, TokP tok → GTok tok) (v : Bytes) (t : ArgType)
    (h : Typed.TokArg TokP v t) :
    ∃ k, Genuine (k, v) ∧ k ≠ .hash_comment ∧ (k = .multiline → t = .string) := by
  obtain ⟨tok, htok, hv, hk⟩ := h
  have hg := hG tok htok
  have hnh : tok.kind ≠ .hash_comment := by
    rcases hk with ⟨h1 | h1, _⟩ | ⟨h1, _⟩ | ⟨h1, _⟩ <;> rw [h1] <;> simp
  refine ⟨tok.kind, ?_, hnh, ?_⟩
  · have := hg
    simpa [GTok, kt, hv] using this
  · intro hm
    rcases hk with ⟨_, h2⟩ | ⟨h1, _⟩ | ⟨h1, _⟩
    · exact h2
    · rw [h1] at hm; simp at hm
    · rw [h1] at hm; simp at hm

/-- a scalar value is printed as the token it was read from: the slot it sits in (its tag parameter, for `e`) admits its
    type, so a multi-line block is in a string slot and gets its line feed -/
theorem str_pw {TokP : Tok → Prop} {T : Table} (C : Ctx TokP T) (d : CmdDef) (hd : d ∈ T) (i : Nat) (e : Bool) (k : String)
    (v : Bytes) (x : String × Bytes) (h : ArgH TokP T d e (.str k v)) (hs : renderArg T i d e (.str k v) = some x) :
    x.1 = k ∧ PW [(kindOf v, v)] x.2 := by
  cases e with
  | false =>
    obtain ⟨a, ha, hak, _, t, htok, hvt⟩ := h.1
    have hslot := (Printable.defP_slot (C.hP d hd) a ha).1
    rw [hak] at hslot
    obtain ⟨kk, hg, hnh, hml⟩ := tokArg_genuine C.hG v t htok
    have hstr := fun hm : kk = .multiline => ((C.hL.spec hd).2.2 a ha).1 (hml hm ▸ hvt)
    rw [kindOf_genuine kk v hg]
    simp only [renderArg, hslot, Bool.false_eq_true, if_false] at hs
    by_cases htag : ArgType.tag ∈ a.types
    · rw [if_pos (decide_eq_true htag)] at hs; cases hs
      exact ⟨rfl, PW_tok kk v hg (fun hm => (hstr hm).1 htag) hnh⟩
    · rw [if_neg (by simpa using htag)] at hs; cases hs
      exact ⟨rfl, renderScalar_pw _ kk v hg hnh (fun hm => (hstr hm).2)⟩
  | true =>
    obtain ⟨c, hc, hck, e', hce, _, t, htok, hat⟩ := h.1
    have hslot := (Printable.defP_slot (C.hP d hd) c hc).1
    rw [hck] at hslot
    obtain ⟨kk, hg, hnh, hml⟩ := tokArg_genuine C.hG v t htok
    rw [kindOf_genuine kk v hg]
    simp only [renderArg, hslot, if_true, hce] at hs
    cases hs
    exact ⟨rfl, renderScalar_pw _ kk v hg hnh (fun hm => ((C.hL.spec hd).2.2 c hc).2 e' hce (hml hm ▸ hat))⟩

theorem items_genuine {TokP : Tok → Prop} (hG : ∀ tok, TokP tok → GTok tok) (l : List Bytes) (h : TokThread.ItemsP TokP l) :
    ∀ x ∈ l, Genuine (.string, x) := by
  intro x hx
  obtain ⟨tok, htok, hk, ht⟩ := h x hx
  have := hG tok htok
  simpa [GTok, kt, hk, ht] using this

theorem strs_pw {TokP : Tok → Prop} {T : Table} (C : Ctx TokP T) (d : CmdDef) (i : Nat) (e : Bool) (k : String)
    (items : List Bytes) (x : String × Bytes) (h : ArgH TokP T d e (.strs k items))
    (hs : renderArg T i d e (.strs k items) = some x) :
    x.1 = (flatA T d e (.strs k items)).1 ∧ PW (flatA T d e (.strs k items)).2 x.2 := by
  have hitems : TokThread.ItemsP TokP items := by
    cases e with
    | false => exact h.1.2
    | true => exact h.1.2
  cases hslot : slotOf d k with
  | none =>
    simp only [renderArg, flatA, hslot] at hs ⊢
    cases hs; exact ⟨rfl, PW_nil⟩
  | some slot =>
    simp only [renderArg, flatA, hslot] at hs ⊢
    by_cases hc : (!e && (decide (ArgType.tag ∈ slot.types) || slot.types == [.testlist])) = true
    · rw [if_pos hc] at hs; cases hs
    · rw [if_neg hc] at hs; cases hs
      exact ⟨rfl, (renderList_pw items (items_genuine C.hG items hitems)).toPW⟩

theorem isCmd_mk {T : Table} {name : Bytes} {args extra : List Arg} {children : List Node} {c : List Bytes} {d : CmdDef}
    (h : T.byName name = some d) : Roles.isCmd T (.mk name args extra children c) ↔ d.kind ≠ .test := by
  constructor
  · rintro ⟨d2, hd2, hk2⟩
    rw [show T.byName name = some d2 from hd2] at h; cases h; exact hk2
  · exact fun hk => ⟨d, h, hk⟩

theorem spaces_ws (n : Nat) : ∀ c ∈ spaces n, B.isWs c = true := by
  intro c hc
  simp only [spaces, List.mem_replicate] at hc
  rw [hc.2]; decide

theorem NodeOK.inv {TokP : Tok → Prop} {T : Table} (hP : Printable.TableP T) {name : Bytes} {args extra : List Arg}
    {children : List Node} {c : List Bytes} (h : NodeOK TokP T (.mk name args extra children c)) :
    ∃ d ∈ T, d.name = name ∧ T.byName name = some d ∧ (∀ a ∈ args, ArgH TokP T d false a) ∧
      (∀ a ∈ extra, ArgH TokP T d true a) ∧ ∀ n ∈ children, NodeOK TokP T n ∧ Roles.isCmd T n := by
  obtain ⟨ht, hr⟩ := h
  cases ht with
  | mk _ _ _ _ _ d hnamed hname hargs hextra hkids htest htests =>
  cases hr with
  | mk _ _ _ _ _ d' hd' hkidsK hkidsR _ _ _ hargsR _ harglR =>
  have hd : d ∈ T := Typed.named_mem hnamed
  have hsub : ∀ a ∈ args ++ extra, SubOK TokP T a := by
    intro a ha
    cases a with
    | str k v => trivial
    | strs k l => trivial
    | test k n => exact ⟨htest k n ha, hargsR k n ha⟩
    | tests k l => exact fun n hn => ⟨htests k l ha n hn, harglR k l ha n hn⟩
  exact ⟨d, hd, hname, by rw [← hname]; exact Printable.defP_byName (hP d hd),
    fun a ha => ⟨hargs a ha, hsub a (List.mem_append_left _ ha)⟩,
    fun a ha => ⟨hextra a ha, hsub a (List.mem_append_right _ ha)⟩,
    fun n hn => ⟨⟨hkids n hn, hkidsR n hn⟩, hkidsK n hn⟩⟩

mutual
/-- the printed text of a node is an open piece with the node's tokens (a test ends in its last argument, which what
    follows must not continue); that of a command is closed (it ends in `;` or `}` and a line feed) -/
theorem node_pw {TokP : Tok → Prop} {T : Table} (C : Ctx TokP T) : ∀ (n : Node) (i : Nat) (out : Bytes),
    NodeOK TokP T n → Ser.node T i n = some out → PW (flatN T n) out ∧ (Roles.isCmd T n → PWc (flatN T n) out)
  | .mk name args extra children comments, i, out, hn, hs => by
    obtain ⟨d, hd, rfl, hbn, hA, hE, hkids⟩ := hn.inv C.hP
    obtain ⟨hname, hblock, -⟩ := C.hL.spec hd
    simp only [Ser.node, hbn] at hs
    simp only [flatN, hbn]
    cases hra : renderArgs T i d false args with
    | none => rw [hra] at hs; cases hs
    | some ra =>
    cases hre : renderArgs T i d true extra with
    | none => rw [hra, hre] at hs; cases hs
    | some re =>
    rw [hra, hre] at hs
    dsimp only at hs
    obtain ⟨hasm, hash⟩ := assemble_pw d.args ra re _ _ (args_pw C d hd args i false ra hA hra) (args_pw C d hd extra i true re hE hre)
    have hname_tok : PW [(TokKind.identifier, d.name)] d.name := PW_tok .identifier d.name hname (by simp) (by simp)
    have hhead : PW ((TokKind.identifier, d.name) :: asm d.args (flatAs T d false args) (flatAs T d true extra))
        (spaces i ++ d.name ++ assemble d.args ra re) :=
      ((PWc_ws (spaces i) (spaces_ws i)).append_PW hname_tok).append hasm hash
    by_cases hac : (!d.acceptChildren) = true
    · rw [if_pos hac] at hs ⊢
      by_cases hk : (d.kind != .test) = true
      · rw [if_pos hk] at hs ⊢; cases hs
        have := hhead.append_c (PWc_punct_ws 59 .semicolon [10]) (headSep_cons 59 [10] (by decide)) (by simp)
        exact ⟨this.toPW, fun _ => this⟩
      · rw [if_neg hk] at hs ⊢; cases hs
        exact ⟨hhead, fun hc => absurd (by simpa using hk) ((isCmd_mk hbn).mp hc)⟩
    · rw [if_neg hac] at hs ⊢
      by_cases hk : (d.kind != .control) = true
      · -- it takes children and is no control: a test
        rw [if_pos hk] at hs ⊢; cases hs
        refine ⟨hhead, fun hc => ?_⟩
        rcases hblock (by simpa using hac) with h0 | h0
        · exact absurd h0 (by simpa using hk)
        · exact absurd h0 ((isCmd_mk hbn).mp hc)
      · rw [if_neg hk] at hs ⊢
        cases hb : nodes T (i + 4) children with
        | none => rw [hb] at hs; cases hs
        | some body =>
          rw [hb] at hs; cases hs
          have hopen : PWc [(TokKind.left_cbracket, [123])] [32, 123, 10] :=
            (PWc_ws [32] (by decide)).append (PWc_punct_ws 123 .left_cbracket [10])
          have := (((hhead.append_c hopen (headSep_cons 32 _ (by decide)) (by simp)).append
            (nodes_pw C children (i + 4) body hkids hb)).append (PWc_ws (spaces i) (spaces_ws i))).append
              (PWc_punct_ws 125 .right_cbracket [10])
          rw [List.append_nil] at this
          exact ⟨this.toPW, fun _ => this⟩

theorem nodes_pw {TokP : Tok → Prop} {T : Table} (C : Ctx TokP T) : ∀ (l : List Node) (i : Nat) (out : Bytes),
    (∀ n ∈ l, NodeOK TokP T n ∧ Roles.isCmd T n) → Ser.nodes T i l = some out → PWc (flatNs T l) out
  | [], i, out, _, hs => by
    cases hs
    exact PWc_nil
  | n :: rest, i, out, h, hs => by
    obtain ⟨a, b, ha, hb, rfl⟩ := nodes_cons_some.mp hs
    have hn := h n (List.mem_cons_self ..)
    exact ((node_pw C n i a hn.1 ha).2 hn.2).append (nodes_pw C rest i b (fun m hm => h m (List.mem_cons_of_mem _ hm)) hb)

theorem tests_pw {TokP : Tok → Prop} {T : Table} (C : Ctx TokP T) : ∀ (l : List Node) (out : Bytes),
    (∀ n ∈ l, NodeOK TokP T n) → Ser.testsOut T l = some out → PW (flatTs T l) out
  | [], out, _, hs => by
    cases hs
    exact PW_nil
  | [n], out, h, hs => (node_pw C n 0 out (h n (List.mem_cons_self ..)) hs).1
  | n :: m :: rest, out, h, hs => by
    obtain ⟨a, b, ha, hb, rfl⟩ := testsOut_cons_some.mp hs
    have h1 := (node_pw C n 0 a (h n (List.mem_cons_self ..)) ha).1
    have h2 := tests_pw C (m :: rest) b (fun x hx => h x (List.mem_cons_of_mem _ hx)) hb
    exact (h1.append_c PWc_comma_sp (headSep_cons 44 [32] (by decide)) (by simp)).append_PW h2

theorem arg_pw {TokP : Tok → Prop} {T : Table} (C : Ctx TokP T) (d : CmdDef) (hd : d ∈ T) : ∀ (a : Arg) (i : Nat) (e : Bool)
    (x : String × Bytes), ArgH TokP T d e a → renderArg T i d e a = some x →
    x.1 = (flatA T d e a).1 ∧ PW (flatA T d e a).2 x.2
  | .str k v, i, e, x, h, hs => str_pw C d hd i e k v x h hs
  | .strs k items, i, e, x, h, hs => strs_pw C d i e k items x h hs
  | .test k n, i, e, x, h, hs => by
    rw [renderArg] at hs
    cases hb : Ser.node T i n with
    | none => rw [hb] at hs; cases hs
    | some b => rw [hb] at hs; cases hs; exact ⟨rfl, (node_pw C n i b h.2 hb).1⟩
  | .tests k l, i, e, x, h, hs => by
    cases hslot : slotOf d k with
    | none =>
      simp only [renderArg, flatA, hslot] at hs ⊢
      cases hs; exact ⟨rfl, PW_nil⟩
    | some slot =>
      simp only [renderArg, flatA, hslot] at hs ⊢
      by_cases hc : (slot.types == [.testlist]) = true
      · rw [if_pos hc] at hs
        cases hb : Ser.testsOut T l with
        | none => rw [hb] at hs; cases hs
        | some b =>
          rw [hb] at hs; cases hs
          exact ⟨rfl, ((tests_pw C l b h.2 hb).between 40 .left_parenthesis 41 .right_parenthesis).toPW⟩
      · rw [if_neg hc] at hs; cases hs

theorem args_pw {TokP : Tok → Prop} {T : Table} (C : Ctx TokP T) (d : CmdDef) (hd : d ∈ T) : ∀ (l : List Arg) (i : Nat) (e : Bool)
    (ra : List (String × Bytes)), (∀ a ∈ l, ArgH TokP T d e a) → renderArgs T i d e l = some ra → Rel ra (flatAs T d e l)
  | [], i, e, ra, _, hs => by
    cases hs
    exact Rel.nil
  | a :: rest, i, e, ra, h, hs => by
    obtain ⟨x, xs, hx, hxs, rfl⟩ := renderArgs_cons_some.mp hs
    obtain ⟨h1, h2⟩ := arg_pw C d hd a i e x (h a (List.mem_cons_self ..)) hx
    exact Rel.cons h1 h2 (args_pw C d hd rest i e xs (fun b hb => h b (List.mem_cons_of_mem _ hb)) hxs)
end

theorem flatA_key (T : Table) (d : CmdDef) (e : Bool) (x : Arg) : (flatA T d e x).1 = x.key := by
  cases x with
  | str k v => rfl
  | strs k l => simp only [flatA, Arg.key]; split <;> rfl
  | test k n => rfl
  | tests k l => simp only [flatA, Arg.key]; split <;> rfl

theorem lookupK_flatAs (T : Table) (d : CmdDef) (e : Bool) : ∀ (l : List Arg) (k : String) (a : Arg),
    assocGet l k = some a → lookupK (flatAs T d e l) k = some (flatA T d e a).2
  | [], k, a, h => by cases h
  | b :: rest, k, a, h => by
    unfold assocGet at h
    unfold lookupK
    rw [List.find?_cons] at h
    rw [flatAs, List.find?_cons, flatA_key]
    cases hb : b.key == k with
    | true => rw [hb] at h; cases h; rfl
    | false => rw [hb] at h; exact lookupK_flatAs T d e rest k a h

theorem asm_mem (defs : List ArgDef) (fa fe : List (String × List KT)) (a : ArgDef) (ha : a ∈ defs) (ks : List KT)
    (hl : lookupK fa a.name = some ks) : ∀ x ∈ ks, x ∈ asm defs fa fe := by
  induction defs with
  | nil => simp at ha
  | cons d rest ih =>
    intro x hx
    simp only [List.mem_cons] at ha
    rcases ha with rfl | ha
    · simp only [asm, hl]
      simp [hx]
    · have := ih ha x hx
      simp only [asm]
      split
      · exact this
      · simp [this]

/-- the tokens of a value recorded under a slot of the node's definition are among the node's tokens -/
theorem flatA_sub_flatN {T : Table} {name : Bytes} {args extra : List Arg} {children : List Node} {comments : List Bytes}
    {d : CmdDef} (hd : T.byName name = some d) {k : String} {a : Arg} (h : assocGet args k = some a)
    {s : ArgDef} (hs : s ∈ d.args) (hsk : s.name = k) :
    ∀ x ∈ (flatA T d false a).2, x ∈ flatN T (.mk name args extra children comments) := by
  intro x hx
  have hm := asm_mem d.args (flatAs T d false args) (flatAs T d true extra) s hs _
    (by rw [hsk]; exact lookupK_flatAs T d false args k _ h) x hx
  simp only [flatN, hd]
  split
  · split <;> simp [hm]
  · split <;> simp [hm]

theorem flatN_sub_flatNs (T : Table) (l : List Node) (n : Node) (hn : n ∈ l) : ∀ x ∈ flatN T n, x ∈ flatNs T l := by
  induction l with
  | nil => simp at hn
  | cons m rest ih =>
    intro x hx
    simp only [List.mem_cons] at hn
    simp only [flatNs, List.mem_append]
    rcases hn with rfl | hn
    · exact Or.inl hx
    · exact Or.inr (ih hn x hx)

theorem mem_commaK (l : List KT) (x : KT) (h : x ∈ l) : x ∈ commaK l := by
  induction l with
  | nil => simp at h
  | cons a rest ih =>
    cases rest with
    | nil => simpa [commaK] using h
    | cons b r =>
      simp only [List.mem_cons] at h
      simp only [commaK, List.mem_cons]
      rcases h with rfl | h
      · exact Or.inl rfl
      · exact Or.inr (Or.inr (ih (by simpa using h)))

theorem commaK_strings (l : List KT) (h : ∀ x ∈ l, x.1 = TokKind.string) :
    ((commaK l).filter (fun x => x.1 == TokKind.string)).length = l.length := by
  induction l with
  | nil => simp [commaK]
  | cons a rest ih =>
    cases rest with
    | nil => simp [commaK, h a (by simp)]
    | cons b r =>
      have := ih (fun x hx => h x (by simp [hx]))
      simp only [commaK, List.filter_cons, h a (by simp), beq_self_eq_true, if_true, List.length_cons] at this ⊢
      have hc : ((TokKind.comma, ([44] : Bytes)).1 == TokKind.string) = false := by decide
      simp only [hc, Bool.false_eq_true, if_false]
      omega

theorem mem_flatList {items : List Bytes} {x : Bytes} (hx : x ∈ items) : (TokKind.string, renderItem x) ∈ flatList items := by
  have := mem_commaK (items.map fun v => ((TokKind.string, renderItem v) : KT)) _ (List.mem_map.mpr ⟨x, hx, rfl⟩)
  simp [flatList, this]

end Reprint
