import SieveModel.Model.Rename
/-!
# Safety of the emulated rename (T-RENAME)

For every well-formed store (distinct names, the active script — if any — among them), every pair of
names, every placement of faults over the five commands and every content transformation `f`, the
store after `Rename.run` is one of five shapes, each of which keeps every script the call is not
about untouched and keeps the script being renamed under its old or its new name.
-/
namespace Rename

def WF (s : Store) : Prop := s.names.Nodup ∧ ∀ a, s.active = some a → a ∈ s.names

theorem mem_names_iff {s : Store} {n : Bytes} : n ∈ s.names ↔ ∃ c, s.lookup n = some c := by
  rw [← Option.isSome_iff_exists, Store.lookup, Option.isSome_map, List.find?_isSome, Store.names, List.mem_map]
  exact ⟨fun ⟨p, hp, e⟩ => ⟨p, hp, beq_iff_eq.2 e⟩, fun ⟨p, hp, e⟩ => ⟨p, hp, beq_iff_eq.1 e⟩⟩

theorem putList_new {l : List (Bytes × Bytes)} {n c : Bytes} (h : n ∉ l.map (·.1)) : putList l n c = l ++ [(n, c)] := by
  fun_induction putList l n c with
  | case1 => rfl
  | case2 p rest n c hp => exact absurd (List.mem_cons.2 (.inl (beq_iff_eq.1 hp).symm)) h
  | case3 p rest n c hp ih => rw [ih fun hm => h (List.mem_cons_of_mem _ hm)]; rfl

theorem find_putList_same (l : List (Bytes × Bytes)) (n c : Bytes) :
    ((putList l n c).find? (fun p => p.1 == n)).map (·.2) = some c := by
  fun_induction putList l n c with
  | case1 => simp
  | case2 => simp
  | case3 p rest n c hp ih => rw [List.find?_cons, Bool.eq_false_iff.2 hp]; exact ih

theorem find_putList_other (l : List (Bytes × Bytes)) (n c m : Bytes) (h : m ≠ n) :
    (putList l n c).find? (fun p => p.1 == m) = l.find? (fun p => p.1 == m) := by
  have hnm : ¬ (n == m) = true := fun e => h (beq_iff_eq.1 e).symm
  fun_induction putList l n c with
  | case1 => rw [List.find?_cons, Bool.eq_false_iff.2 hnm]
  | case2 p rest n c hp => rw [List.find?_cons, List.find?_cons, beq_iff_eq.1 hp, Bool.eq_false_iff.2 hnm]
  | case3 p rest n c hp ih => rw [List.find?_cons, List.find?_cons, ih h hnm]

theorem lookup_put_same (s : Store) (n c : Bytes) : (s.put n c).lookup n = some c :=
  find_putList_same s.scripts n c

theorem lookup_put_other (s : Store) (n c m : Bytes) (h : m ≠ n) : (s.put n c).lookup m = s.lookup m := by
  unfold Store.lookup Store.put
  simp only [find_putList_other s.scripts n c m h]

theorem names_put_new (s : Store) (n c : Bytes) (h : n ∉ s.names) : (s.put n c).names = s.names ++ [n] := by
  unfold Store.names Store.put
  rw [putList_new h, List.map_append]
  rfl

theorem mem_names_put {s : Store} {n m : Bytes} (c : Bytes) (h : n ∉ s.names) :
    m ∈ (s.put n c).names ↔ m ∈ s.names ∨ m = n := by
  rw [names_put_new s n c h, List.mem_append, List.mem_singleton]

theorem wf_put_new (s : Store) (n c : Bytes) (hw : WF s) (h : n ∉ s.names) : WF (s.put n c) := by
  refine ⟨?_, fun a ha => (mem_names_put c h).2 (.inl (hw.2 a ha))⟩
  rw [names_put_new s n c h]
  exact List.nodup_append.2 ⟨hw.1, by simp, fun a ha b hb e => h (List.mem_singleton.1 hb ▸ e ▸ ha)⟩

/-- the store with `n` made active -/
def act (s : Store) (n : Bytes) : Store := { s with active := some n }
/-- the store without script `n` -/
def del (s : Store) (n : Bytes) : Store := { s with scripts := s.scripts.filter (fun p => !(p.1 == n)) }

theorem activate_eq (s : Store) (n : Bytes) (h : n ∈ s.names) : s.activate n = some (act s n) := by
  unfold Store.activate
  have : s.names.contains n = true := by simpa using h
  simp only [this, if_true, act]

theorem delete_eq (s : Store) (n : Bytes) (h : n ∈ s.names) (ha : s.active ≠ some n) : s.delete n = some (del s n) := by
  unfold Store.delete
  have h1 : s.names.contains n = true := by simpa using h
  have h2 : (s.active == some n) = false := by simpa using ha
  simp only [h1, h2, Bool.not_true, Bool.false_eq_true, if_false, del]

theorem lookup_act (s : Store) (n m : Bytes) : (act s n).lookup m = s.lookup m := rfl
theorem names_act (s : Store) (n : Bytes) : (act s n).names = s.names := rfl

theorem names_del (s : Store) (n : Bytes) : (del s n).names = s.names.filter (fun m => !(m == n)) := by
  unfold del Store.names
  simp only [List.filter_map]
  rfl

theorem not_mem_names_del (s : Store) (n : Bytes) : n ∉ (del s n).names := by
  rw [names_del]
  simp

theorem find_filter_other (l : List (Bytes × Bytes)) (n m : Bytes) (h : m ≠ n) :
    (l.filter (fun p => !(p.1 == n))).find? (fun p => p.1 == m) = l.find? (fun p => p.1 == m) := by
  rw [List.find?_filter]
  congr 1; funext p
  by_cases hp : p.1 = m
  · simp [hp, h]
  · simp [hp]

theorem lookup_del_other (s : Store) (n m : Bytes) (h : m ≠ n) : (del s n).lookup m = s.lookup m := by
  unfold del Store.lookup
  simp only [find_filter_other s.scripts n m h]

theorem wf_act (s : Store) (n : Bytes) (hw : WF s) (h : n ∈ s.names) : WF (act s n) := by
  refine ⟨hw.1, ?_⟩
  intro a ha
  have : a = n := by simpa [act] using ha.symm
  subst this
  exact h

theorem wf_del (s : Store) (n : Bytes) (hw : WF s) (ha : s.active ≠ some n) : WF (del s n) := by
  refine ⟨?_, ?_⟩
  · rw [names_del]; exact hw.1.filter _
  · intro a hact
    have ha' : s.active = some a := hact
    rw [names_del]
    refine List.mem_filter.2 ⟨hw.2 a ha', ?_⟩
    have : a ≠ n := by intro e; subst e; exact ha ha'
    simpa using this

/-- one command of the walk: refused (`no`), the connection gone (`bye`, `silent`), executed with its reply lost, or executed
    (if the store allows it: `exec`) and the walk goes on with `k` -/
def attempt (flt : Fault) (s : Store) (exec : Option Store) (k : Store → Store × Outcome) : Store × Outcome :=
  match flt with
  | .bye | .silent => (s, .error)
  | .no => (s, .false)
  | .lost => (exec.getD s, .error)
  | .none => match exec with
    | some s' => k s'
    | none => (s, .false)

theorem stepDelete_eq (plan : Step → Fault) (s : Store) (old : Bytes) :
    stepDelete plan s old = attempt (plan .delete) s (s.delete old) fun s' => (s', .true) := by
  unfold stepDelete attempt; cases plan .delete <;> rfl

theorem stepActivate_eq (plan : Step → Fault) (s : Store) (wasActive : Bool) (old new : Bytes) :
    stepActivate plan s wasActive old new =
      if wasActive then attempt (plan .setactive) s (s.activate new) fun s' => stepDelete plan s' old
      else stepDelete plan s old := by
  unfold stepActivate attempt; cases wasActive <;> simp only [Bool.not_true, Bool.not_false, if_true, if_false, Bool.false_eq_true]
  cases plan .setactive <;> rfl

theorem stepPut_eq (f : Bytes → Bytes) (plan : Step → Fault) (s : Store) (wasActive : Bool) (old new c : Bytes) :
    stepPut f plan s wasActive old new c =
      attempt (plan .put) s (some (s.put new (f c))) fun s' => stepActivate plan s' wasActive old new := by
  unfold stepPut attempt; cases plan .put <;> rfl

theorem stepGet_eq (f : Bytes → Bytes) (plan : Step → Fault) (s : Store) (wasActive : Bool) (old new : Bytes) :
    stepGet f plan s wasActive old new =
      attempt (plan .get) s (some s) fun _ => match s.lookup old with
        | none => (s, .false)
        | some c => stepPut f plan s wasActive old new c := by
  unfold stepGet attempt; cases plan .get <;> rfl

theorem attempt_congr {flt : Fault} {s : Store} {exec : Option Store} {k k' : Store → Store × Outcome}
    (h : ∀ s', exec = some s' → k s' = k' s') : attempt flt s exec k = attempt flt s exec k' := by
  unfold attempt
  cases flt <;> try rfl
  cases exec with
  | none => rfl
  | some s' => exact h s' rfl

/-- the chain on a store that holds `old` (with content `c`) and not `new`: the attempts from GETSCRIPT on (four when `old`
    is active, else three), each on the store the one before left (`B` with the copy, `C` with the copy active) -/
theorem stepGet_walk (f : Bytes → Bytes) (plan : Step → Fault) {s B C : Store} {old new c : Bytes}
    (hc : s.lookup old = some c) (hn : new ∉ s.names) (hB : B = s.put new (f c)) (hC : C = act B new) :
    stepGet f plan s (s.active == some old) old new =
      attempt (plan .get) s (some s) fun _ =>
      attempt (plan .put) s (some B) fun _ =>
      if s.active = some old then
        attempt (plan .setactive) B (some C) fun _ => attempt (plan .delete) C (some (del C old)) fun _ => (del C old, .true)
      else attempt (plan .delete) B (some (del B old)) fun _ => (del B old, .true) := by
  subst hB hC
  have hold : old ∈ s.names := mem_names_iff.2 ⟨c, hc⟩
  have hBold : old ∈ (s.put new (f c)).names := (mem_names_put _ hn).2 (.inl hold)
  rw [stepGet_eq]
  refine attempt_congr fun _ _ => ?_
  simp only [hc]
  rw [stepPut_eq]
  refine attempt_congr fun _ h => ?_
  cases h
  rw [stepActivate_eq]
  by_cases ha : s.active = some old
  · rw [if_pos (by simpa using ha), if_pos ha, activate_eq _ _ ((mem_names_put _ hn).2 (.inr rfl))]
    refine attempt_congr fun _ h => ?_
    cases h
    rw [stepDelete_eq, delete_eq _ _ (show old ∈ (act (s.put new (f c)) new).names from hBold)
      (fun e => hn (Option.some.inj e ▸ hold))]
    exact attempt_congr fun _ h => by cases h; rfl
  · rw [if_neg (by simpa using ha), if_neg ha, stepDelete_eq,
      delete_eq _ _ hBold (show (s.put new (f c)).active ≠ some old from ha)]
    exact attempt_congr fun _ h => by cases h; rfl

/-- what holds of the store as it is (with any answer but True), of the store after a lost reply, and of what comes after
    a reply that arrived, holds of the attempt -/
theorem attempt_cases {P : Store × Outcome → Prop} {flt : Fault} {s s' : Store} {k : Store → Store × Outcome}
    (stay : ∀ r, r ≠ .true → P (s, r)) (lost : P (s', .error)) (go : P (k s')) : P (attempt flt s (some s') k) := by
  cases flt
  case none => exact go
  case lost => exact lost
  all_goals exact stay _ (by decide)

/-- the possible results of the emulated rename -/
inductive Shape (f : Bytes → Bytes) (s : Store) (old new : Bytes) : Store × Outcome → Prop
  /-- nothing was changed; the call did not return True -/
  | same (r : Outcome) (hr : r ≠ .true) : Shape f s old new (s, r)
  /-- the copy exists, the original too; not True -/
  | copied (c : Bytes) (hc : s.lookup old = some c) (hn : new ∉ s.names) (r : Outcome) (hr : r ≠ .true) :
      Shape f s old new (s.put new (f c), r)
  /-- the copy exists and is active (the original was), the original still exists; not True -/
  | activated (c : Bytes) (hc : s.lookup old = some c) (hn : new ∉ s.names) (ha : s.active = some old)
      (r : Outcome) (hr : r ≠ .true) : Shape f s old new (act (s.put new (f c)) new, r)
  /-- done, the original was not active: True, or Error when the last reply was lost -/
  | moved (c : Bytes) (hc : s.lookup old = some c) (hn : new ∉ s.names) (ha : s.active ≠ some old)
      (r : Outcome) (hr : r ≠ .false) : Shape f s old new (del (s.put new (f c)) old, r)
  /-- done, the original was active and the copy is now: True, or Error when the last reply was lost -/
  | movedActive (c : Bytes) (hc : s.lookup old = some c) (hn : new ∉ s.names) (ha : s.active = some old)
      (r : Outcome) (hr : r ≠ .false) : Shape f s old new (del (act (s.put new (f c)) new) old, r)

theorem mem_others {s : Store} {n : Bytes} : s.others.contains n = true ↔ n ∈ s.names ∧ s.active ≠ some n := by
  unfold Store.others
  simp only [List.contains_iff_mem, List.mem_filter, Bool.not_eq_eq_eq_not, Bool.not_true, beq_eq_false_iff_ne, ne_eq]

/-- what the listing shows is what the store holds: a name is the active one or one of the others -/
theorem listed_eq {s : Store} (hw : WF s) (n : Bytes) :
    (s.others.contains n || s.active == some n) = s.names.contains n := by
  rw [Bool.eq_iff_iff, Bool.or_eq_true, mem_others, beq_iff_eq, List.contains_iff_mem]
  by_cases ha : s.active = some n
  · exact ⟨fun _ => hw.2 n ha, fun _ => .inr ha⟩
  · exact ⟨fun h => h.elim (·.1) (absurd · ha), fun h => .inl ⟨h, ha⟩⟩

/-- the two existence checks on the listing are checks on the store -/
theorem run_eq (f : Bytes → Bytes) (plan : Step → Fault) {s : Store} (old new : Bytes) (hw : WF s) :
    run f plan s old new = attempt (plan .list) s (some s) fun _ =>
      if s.names.contains old && !s.names.contains new then stepGet f plan s (s.active == some old) old new
      else (s, .false) := by
  unfold run attempt
  cases plan .list <;> try rfl
  simp only
  rw [← Bool.not_or, Bool.or_comm, listed_eq hw, listed_eq hw]
  cases s.names.contains old <;> cases s.names.contains new <;> rfl

/-- **every run ends in one of the five shapes** -/
theorem run_shape (f : Bytes → Bytes) (plan : Step → Fault) (s : Store) (old new : Bytes) (hw : WF s) :
    Shape f s old new (run f plan s old new) := by
  have same : ∀ r, r ≠ .true → Shape f s old new (s, r) := fun r hr => .same r hr
  rw [run_eq f plan old new hw]
  refine attempt_cases same (same _ (by decide)) ?_
  split
  case isFalse => exact same _ (by decide)
  rename_i h
  obtain ⟨hold, hn⟩ : old ∈ s.names ∧ new ∉ s.names := by simpa using h
  obtain ⟨c, hc⟩ := mem_names_iff.1 hold
  have copied : ∀ r, r ≠ .true → Shape f s old new (s.put new (f c), r) := fun r hr => .copied c hc hn r hr
  rw [stepGet_walk f plan hc hn rfl rfl]
  refine attempt_cases same (same _ (by decide)) (attempt_cases same (copied _ (by decide)) ?_)
  split
  · rename_i ha
    exact attempt_cases copied (.activated c hc hn ha _ (by decide)) (attempt_cases (.activated c hc hn ha)
      (.movedActive c hc hn ha _ (by decide)) (.movedActive c hc hn ha _ (by decide)))
  · rename_i ha
    exact attempt_cases copied (.moved c hc hn ha _ (by decide)) (.moved c hc hn ha _ (by decide))

/-- the safety statement of the emulated rename for a result `(s', r)` -/
structure Safe (f : Bytes → Bytes) (s : Store) (old new : Bytes) (s' : Store) (r : Outcome) : Prop where
  /-- the store stays well-formed -/
  wf : WF s'
  /-- scripts the call is not about are untouched -/
  others : ∀ m, m ≠ old → m ≠ new → s'.lookup m = s.lookup m
  /-- an existing script named like the target is never written over: nothing at all changes -/
  target : new ∈ s.names → s' = s
  /-- nothing changes when the script to rename does not exist -/
  missing : old ∉ s.names → s' = s
  /-- the script being renamed survives, under its old name unchanged or under the new name as uploaded -/
  survives : ∀ c, s.lookup old = some c → s'.lookup old = some c ∨ s'.lookup new = some (f c)
  /-- no third script becomes active: activity stays where it was, or moves from the old name to the new one -/
  activity : s'.active = s.active ∨ (s.active = some old ∧ s'.active = some new)
  /-- True means done: old name gone, new name holds the content, active iff the old one was -/
  done : r = .true → ∃ c, s.lookup old = some c ∧ new ∉ s.names ∧ old ∉ s'.names ∧ s'.lookup new = some (f c) ∧
      (s'.active = some new ↔ s.active = some old) ∧ (s.active ≠ some old → s'.active = s.active)

/-- a store that holds what the copy `s.put new (f c)` holds under every name but `old` -/
theorem Safe.of_copy {f : Bytes → Bytes} {s s' : Store} {old new c : Bytes} {r : Outcome}
    (hc : s.lookup old = some c) (hn : new ∉ s.names) (hw' : WF s')
    (hl : ∀ m, m ≠ old → s'.lookup m = (s.put new (f c)).lookup m)
    (ha : s'.active = s.active ∨ (s.active = some old ∧ s'.active = some new))
    (hd : r = .true → old ∉ s'.names ∧ (s'.active = some new ↔ s.active = some old) ∧
      (s.active ≠ some old → s'.active = s.active)) : Safe f s old new s' r := by
  have hold : old ∈ s.names := mem_names_iff.2 ⟨c, hc⟩
  have hnew : s'.lookup new = some (f c) := (hl new fun e => hn (e ▸ hold)).trans (lookup_put_same s new (f c))
  exact ⟨hw', fun m hmo hm => (hl m hmo).trans (lookup_put_other s new (f c) m hm), fun h => absurd h hn,
    fun h => absurd hold h, fun c' hc' => .inr (by rw [hnew, Option.some.inj (hc'.symm.trans hc)]), ha,
    fun e => ⟨c, hc, hn, (hd e).1, hnew, (hd e).2⟩⟩

theorem shape_safe (f : Bytes → Bytes) (s : Store) (old new : Bytes) (hw : WF s) (x : Store × Outcome)
    (h : Shape f s old new x) : Safe f s old new x.1 x.2 := by
  cases h with
  | same r hr =>
    exact ⟨hw, fun _ _ _ => rfl, fun _ => rfl, fun _ => rfl, fun c hc => .inl hc, .inl rfl, fun e => absurd e hr⟩
  | copied c hc hn r hr =>
    exact .of_copy hc hn (wf_put_new s new (f c) hw hn) (fun _ _ => rfl) (.inl rfl) fun e => absurd e hr
  | activated c hc hn ha r hr =>
    exact .of_copy hc hn (wf_act _ _ (wf_put_new s new (f c) hw hn) ((mem_names_put _ hn).2 (.inr rfl)))
      (fun m _ => lookup_act _ new m) (.inr ⟨ha, rfl⟩) fun e => absurd e hr
  | moved c hc hn ha r hr =>
    exact .of_copy hc hn (wf_del _ _ (wf_put_new s new (f c) hw hn) ha) (fun m hm => lookup_del_other _ _ _ hm) (.inl rfl)
      fun _ => ⟨not_mem_names_del _ _, ⟨fun e => absurd (hw.2 new e) hn, fun e => absurd e ha⟩, fun _ => rfl⟩
  | movedActive c hc hn ha r hr =>
    have hCact : (act (s.put new (f c)) new).active ≠ some old :=
      fun e => hn (Option.some.inj e ▸ mem_names_iff.2 ⟨c, hc⟩)
    exact .of_copy hc hn (wf_del _ _ (wf_act _ _ (wf_put_new s new (f c) hw hn) ((mem_names_put _ hn).2 (.inr rfl))) hCact)
      (fun m hm => lookup_del_other _ _ _ hm) (.inr ⟨ha, rfl⟩)
      fun _ => ⟨not_mem_names_del _ _, ⟨fun _ => ha, fun _ => rfl⟩, fun h => absurd ha h⟩

/-- **the emulated rename is safe** under every placement of faults -/
theorem run_safe (f : Bytes → Bytes) (plan : Step → Fault) (s : Store) (old new : Bytes) (hw : WF s) :
    Safe f s old new (run f plan s old new).1 (run f plan s old new).2 :=
  shape_safe f s old new hw _ (run_shape f plan s old new hw)

end Rename
