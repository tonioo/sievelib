import SieveModel.Generated.Tables
import SieveModel.Lemmas.Printable
import SieveModel.Lemmas.Roles
import SieveModel.Lemmas.Typed
/-!
# The table regenerated from `/repo` meets the decidable table conditions

The conditions of the parser-side theorems (`TableN`, `TableP`, `TableT`, `TableSafe`), each decided once by kernel
evaluation and cited by the Props files; the conditions particular to one property are decided there.  "A definition is
found under its own name" (`Roles.TableN`, and inside `Printable.TableP`) is not decided as it stands — comparing every
definition with itself field by field is what makes that sweep dear — but obtained from the names being pairwise
different.
-/

theorem Roles.tableN_of_nodup {T : Table} (h : (T.map (·.name)).Nodup) : Roles.TableN T :=
  fun _ hd => List.find?_key_of_nodup h hd

theorem Printable.tableP_of_nodup {T : Table} (hn : (T.map (·.name)).Nodup) (hs : ∀ d ∈ T, (d.args.map (·.name)).Nodup)
    (hr : ∀ d ∈ T, (d.args.all (fun a => !decide (ArgType.stringlist ∈ a.types) ||
      (!decide (ArgType.tag ∈ a.types) && a.types != [.testlist])) && (d.special != .hasflag || flagSlotP d)) = true) :
    Printable.TableP T := by
  intro d hd
  have hr := hr d hd
  simp only [Bool.and_eq_true, List.all_eq_true] at hr
  simp only [defP, slotP, Bool.and_eq_true, List.all_eq_true, beq_iff_eq]
  exact ⟨⟨Roles.tableN_of_nodup hn d hd, fun a ha => ⟨List.find?_key_of_nodup (hs d hd) ha, hr.1 a ha⟩⟩, hr.2⟩

namespace Live
open Generated

theorem names_nodup : (builtinTable.map (·.name)).Nodup := by decide +kernel

theorem tableN : Roles.TableN builtinTable := Roles.tableN_of_nodup names_nodup

theorem tableP : Printable.TableP builtinTable :=
  Printable.tableP_of_nodup names_nodup (by decide +kernel) (by decide +kernel)

theorem tableT : Typed.TableT builtinTable := by decide +kernel

theorem tableSafe : Safe.TableSafe builtinTable := by decide +kernel

end Live
