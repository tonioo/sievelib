import SieveModel.Lemmas.Effect
/-!
# Brackets of an accepted script are balanced and properly nested

The parser's bracket stack follows the token stream exactly: an opening `{`, `(` or `[` that is
accepted pushes its closer, an accepted closer pops the same closer from the top, no other token
touches the stack (`feed_br`); acceptance requires the stack to be empty (`Machine.parse_accept_iff`), which gives
`C01.accepted_scripts_have_balanced_brackets`.
-/
namespace Brackets
open Machine

def closerOf : TokKind → Option TokKind
  | .left_cbracket => some .right_cbracket
  | .left_parenthesis => some .right_parenthesis
  | .left_bracket => some .right_bracket
  | _ => none

def isCloser (k : TokKind) : Bool := k == .right_cbracket || k == .right_parenthesis || k == .right_bracket

/-- the stack discipline of nested brackets: `none` = a closer that does not match the innermost opener -/
def dstep (b : List TokKind) (k : TokKind) : Option (List TokKind) :=
  match closerOf k with
  | some c => some (c :: b)
  | none =>
    if isCloser k then
      match b with
      | x :: r => if x == k then some r else none
      | [] => none
    else some b

/-- run the nesting discipline over a token-kind sequence -/
def drun : List TokKind → List TokKind → Option (List TokKind)
  | b, [] => some b
  | b, k :: ks =>
    match dstep b k with
    | some b' => drun b' ks
    | none => none

/-- balanced and properly nested -/
def Balanced (ks : List TokKind) : Prop := drun [] ks = some []

variable {T : Table} {s s' : PState}

theorem direct_br {text : Bytes} {k : TokKind} {mid : PState} {c : Closing} {rew : Bool} (h : Direct T s text k mid c rew) :
    if rew then mid.brackets = s.brackets else dstep s.brackets k = some mid.brackets := by
  cases h with
  | value _ hk => cases k <;> cases hk <;> rfl
  -- every other constructor says which token it is for and writes `mid.brackets` out
  | _ => simp [dstep, closerOf, isCloser, openList, *]

theorem eff_br {text : Bytes} {k : TokKind} {rew : Bool} (h : Eff T s text k s' rew) :
    if rew then s'.brackets = s.brackets else dstep s.brackets k = some s'.brackets := by
  obtain ⟨hp, hc⟩ := h
  rw [(Closing.run_ctl hc).brackets]
  exact direct_br hp

theorem stepEff_br {tok : Tok} {rew : Bool} (h : StepEff T s tok s' rew) :
    if rew then s'.brackets = s.brackets else dstep s.brackets tok.kind = some s'.brackets := by
  cases h with
  | hash hk => rw [hk]; rfl
  | skip hk => rw [hk]; rfl
  | tok _ _ _ h => exact eff_br (s := { s with expected := none }) h

theorem deliver_br (T : Table) (s : PState) (tok : Tok) (s' : PState) (h : deliver T s tok = .ok s') :
    dstep s.brackets tok.kind = some s'.brackets := by
  obtain h | ⟨s1, h1, h2⟩ := deliver_eff h
  · exact stepEff_br h
  · have := stepEff_br h1
    rw [← this]
    exact stepEff_br h2

theorem feed_br {toks : List Tok} {n m : Nat} (h : feed T toks s n = .done s' m) :
    drun s.brackets (toks.map (·.kind)) = some s'.brackets := by
  induction toks generalizing s n with
  | nil => cases h; rfl
  | cons tok rest ih =>
    obtain ⟨s1, hd, h⟩ := feed_cons_done.mp h
    simp only [List.map_cons, drun, deliver_br T s tok s1 hd]
    exact ih h

end Brackets
