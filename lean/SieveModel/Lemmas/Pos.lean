import SieveModel.Model.Lexer
/-! Position arithmetic of `Lexer.curlineno` / `Lexer.curcolno` against a forward-scanning
    text-editor notion of (line, column). -/
namespace Lex

/-- editor position of byte offset `p`: start at `(l, c)`, a line feed moves to the next line -/
def posOf : Bytes → Nat → Nat × Nat → Nat × Nat
  | _, 0, lc => lc
  | [], _ + 1, lc => lc
  | ch :: cs, p + 1, (l, c) => if ch == 10 then posOf cs p (l + 1, 1) else posOf cs p (l, c + 1)

theorem count_take_le (c : UInt8) (b : Bytes) (p : Nat) : B.count c (b.take p) ≤ B.count c b := by
  unfold B.count
  have : (b.take p).Sublist b := List.take_sublist p b
  exact (this.filter _).length_le

theorem lineno_bounds (text : Bytes) (p : Nat) :
    1 ≤ lineno text p ∧ lineno text p ≤ 1 + B.count 10 text := by
  unfold lineno
  have := count_take_le 10 text p
  omega

/-- position just after the prefix `pre` -/
def after (pre : Bytes) : Nat × Nat := (B.count 10 pre + 1, pre.length + 1 - rfindNl1 pre)

theorem rfindNl1_le (b : Bytes) : rfindNl1 b ≤ b.length := by
  unfold rfindNl1; split <;> omega

theorem rfindNl1_snoc (pre : Bytes) (ch : UInt8) :
    rfindNl1 (pre ++ [ch]) = if ch == 10 then pre.length + 1 else rfindNl1 pre := by
  unfold rfindNl1
  rw [List.reverse_append, List.reverse_singleton, List.singleton_append, List.idxOf?_cons, List.length_append]
  cases ch == 10 with
  | true => rfl
  | false => cases pre.reverse.idxOf? 10 <;> simp

theorem after_snoc (pre : Bytes) (ch : UInt8) :
    after (pre ++ [ch]) = if ch == 10 then ((after pre).1 + 1, 1) else ((after pre).1, (after pre).2 + 1) := by
  have hle := rfindNl1_le pre
  simp only [after, rfindNl1_snoc, B.count, List.filter_append, List.length_append, List.filter_cons, List.filter_nil]
  cases ch == 10 with
  | true => simp
  | false => simp; omega

theorem posOf_spec (pre text : Bytes) (p : Nat) (hp : p ≤ text.length) :
    posOf text p (after pre) = after (pre ++ text.take p) := by
  induction text generalizing pre p with
  | nil => cases p <;> simp [posOf]
  | cons ch cs ih =>
    cases p with
    | zero => simp [posOf]
    | succ p =>
      have key := ih (pre ++ [ch]) p (Nat.le_of_succ_le_succ hp)
      rw [List.append_assoc, List.singleton_append, after_snoc] at key
      rw [List.take_succ_cons, ← key, show after pre = ((after pre).1, (after pre).2) from rfl, posOf]
      split <;> rfl

/-- C18 (arithmetic): the reported (line, column) of byte offset `p` is its editor position -/
theorem lineno_colno_eq_posOf (text : Bytes) (p : Nat) (_hp : p ≤ text.length) :
    (lineno text p, colno text p) = posOf text p (1, 1) := by
  have h := posOf_spec [] text p _hp
  have h0 : after [] = (1, 1) := by simp [after, B.count, rfindNl1]
  rw [h0] at h
  rw [h]
  simp [after, lineno, colno, List.length_take, Nat.min_eq_left _hp]

end Lex
