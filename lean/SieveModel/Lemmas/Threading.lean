import SieveModel.Lemmas.StackThread
/-!
# One predicate per stack frame and one per finished node, kept by every parser step

For predicates `FP` on stack frames and `NP` on finished nodes that are closed under the ways the
machine builds and finishes frames (`Closed`), every node of an accepted result is in `NP` (`accepted_nodes`).
This is `Lemmas/StackThread.lean` with no relation between neighbouring frames, and is derived from it.
-/
namespace Threading
open Machine Args ArgsSafe

structure Closed (T : Table) (FP : Frame → Prop) (NP : Node → Prop) : Prop where
  fresh : ∀ d ∈ T, ∀ a, FP { d := d, attach := a }
  node : ∀ f c, FP f → NP (Frame.toNode f c)
  cna : ∀ (f : Frame) (ld : List Bytes) (t : ArgType) (v : AVal) (add ce : Bool) (st' : CState) (pl : Placement),
    FP f → Consistent t v → (∀ n, v = .test n → NP n) →
    checkNextArg f.d ld f.st t v add ce = .ok (some (st', pl)) → FP { f with st := st' }
  plug : ∀ p a n, FP p → NP n → FP (plug p a n)
  reassign : ∀ f f', FP f → reassign f = some f' → FP f'

variable {T : Table} {FP : Frame → Prop} {NP : Node → Prop}

/-- every frame of the stack is in `FP` and every finished top-level command in `NP` -/
def SP (FP : Frame → Prop) (NP : Node → Prop) (s : PState) : Prop := (∀ f ∈ s.stack, FP f) ∧ (∀ n ∈ s.result, NP n)

theorem SP.fields {s s' : PState} (h : SP FP NP s) (h1 : s'.stack = s.stack) (h2 : s'.result = s.result) : SP FP NP s' :=
  ⟨by rw [h1]; exact h.1, by rw [h2]; exact h.2⟩

/-- one predicate per frame is the case of `StackThread` in which neighbouring frames are unrelated -/
theorem Closed.toStack (C : Closed T FP NP) :
    StackThread.Closed T FP (fun _ _ _ => True) (fun _ _ _ => True) (fun res => ∀ n ∈ res, NP n) where
  nil := List.forall_mem_nil _
  pushTop := fun d hd _ _ _ _ => ⟨C.fresh d hd _, trivial⟩
  pushChild := fun d hd _ _ _ _ _ => ⟨C.fresh d hd _, trivial⟩
  pushTest := fun d hd f ld st' pl hf _ hcna =>
    ⟨C.cna f ld .test (.test _) true true st' pl hf trivial
        (fun n hn => by cases hn; exact C.node { d := d } [] (C.fresh d hd .top)) hcna,
      C.fresh d hd _, trivial⟩
  value := fun f ld t v st' pl hf hc hn hcna => C.cna f ld t v true true st' pl hf hc (fun n h => absurd h (hn n)) hcna
  -- with `add` off nothing is stored, so the frame's own node may stand for the test that is offered
  dry := fun f ld n st' pl hf hcna =>
    C.cna f ld .test (.test (Frame.toNode f)) false true st' pl hf trivial
      (fun n hn => by cases hn; exact C.node f [] hf) (checkNextArg_dry _ _ _ _ n _ ▸ hcna)
  plug := fun p f hp hf _ => C.plug p _ _ hp (C.node f [] hf)
  reassign := C.reassign
  record := fun f res c hf _ hres => List.forall_mem_snoc hres (C.node f c hf)

theorem accepted_nodes (C : Closed T FP NP) (text : Bytes) (prev : PState) (r : List Node)
    (h : parse T text prev = .accept r) : ∀ n ∈ r, NP n :=
  StackThread.accepted_result C.toStack text prev r h

end Threading
