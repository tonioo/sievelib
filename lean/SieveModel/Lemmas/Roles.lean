import SieveModel.Lemmas.StackThread
import SieveModel.Lemmas.Safe
/-!
# Roles and positions in an accepted tree

`NodeR T n`: in the tree below `n`, every node's name resolves in the table; every child of a block is a
control or an action, sits under a definition that accepts children, and — if its definition says it must
follow certain commands (`elsif`, `else`) — comes directly after a sibling with one of those names; every
node in test position is a test.  `accepted_tree_roles`: every accepted parse result is such a forest.

The only condition on the table is that names identify definitions (`TableN`, decidable).
-/
namespace Roles
open Machine Args ArgsSafe

/-- a definition is found under its own name -/
def TableN (T : Table) : Prop := ∀ d ∈ T, T.byName d.name = some d
instance (T : Table) : Decidable (TableN T) := by unfold TableN; infer_instance

def isTest (T : Table) (n : Node) : Prop := ∃ d, T.byName n.name = some d ∧ d.kind = .test
def isCmd (T : Table) (n : Node) : Prop := ∃ d, T.byName n.name = some d ∧ d.kind ≠ .test

/-- `n` may come after a sibling named `prev` (`none`: it is the first) -/
def followsOk (T : Table) (prev : Option Bytes) (n : Node) : Prop :=
  ∀ d, T.byName n.name = some d → followOk d prev = true

/-- every element of a sibling list may come after its predecessor -/
def SibOK (T : Table) (l : List Node) : Prop :=
  ∀ (pre : List Node) (n : Node) (post : List Node), l = pre ++ n :: post → followsOk T (lastName pre) n

inductive NodeR (T : Table) : Node → Prop
  | mk (name : Bytes) (args extra : List Arg) (children : List Node) (comments : List Bytes) (d : CmdDef)
      (hd : T.byName name = some d)
      (hkidsK : ∀ c ∈ children, isCmd T c)
      (hkids : ∀ c ∈ children, NodeR T c)
      (hblock : children ≠ [] → d.acceptChildren = true)
      (hsib : SibOK T children)
      (hargsK : ∀ k n, Arg.test k n ∈ args ++ extra → isTest T n)
      (hargs : ∀ k n, Arg.test k n ∈ args ++ extra → NodeR T n)
      (harglK : ∀ k l, Arg.tests k l ∈ args ++ extra → ∀ n ∈ l, isTest T n)
      (hargl : ∀ k l, Arg.tests k l ∈ args ++ extra → ∀ n ∈ l, NodeR T n) :
      NodeR T (.mk name args extra children comments)

/-- a stored argument holds only tests, each a well-formed tree -/
def ArgOK (T : Table) : Arg → Prop
  | .test _ n => isTest T n ∧ NodeR T n
  | .tests _ l => ∀ n ∈ l, isTest T n ∧ NodeR T n
  | _ => True

theorem argOK_rekey (T : Table) (k : String) (a : Arg) (h : ArgOK T a) : ArgOK T (a.rekey k) := by
  cases a <;> exact h

theorem argOK_toArg (T : Table) (v : AVal) (k : String) (h : ∀ n, v = .test n → isTest T n ∧ NodeR T n) :
    ArgOK T (v.toArg k) := by
  cases v with
  | test n => exact h n rfl
  | _ => trivial

theorem SibOK.nil (T : Table) : SibOK T [] := by
  intro pre n post h
  cases pre <;> cases h

theorem SibOK.snoc {T : Table} {l : List Node} {n : Node} (h : SibOK T l) (hn : followsOk T (lastName l) n) :
    SibOK T (l ++ [n]) := by
  intro pre m post heq
  rcases List.eq_nil_or_concat post with rfl | ⟨post', x, rfl⟩
  · obtain ⟨rfl, hm⟩ := List.append_inj' heq rfl
    cases hm; exact hn
  · rw [List.concat_eq_append, ← List.cons_append, ← List.append_assoc] at heq
    exact h pre m post' (List.append_inj' heq rfl).1

structure FrameR (T : Table) (f : Frame) : Prop where
  fitTest : ∀ pl, f.attach = .place pl → f.d.kind = .test
  fitCmd : (∀ pl, f.attach ≠ .place pl) → f.d.kind ≠ .test
  dfn : T.byName f.d.name = some f.d
  kids : ∀ c ∈ f.children, isCmd T c ∧ NodeR T c
  block : f.children ≠ [] → f.d.acceptChildren = true
  sib : SibOK T f.children
  args : ∀ a ∈ f.st.arguments, ArgOK T a
  extra : ∀ a ∈ f.st.extraArgs, ArgOK T a

/-- the relation between a frame (definition, attachment) and the frame below it -/
def RelR (d : CmdDef) (a : Attach) (p : Frame) : Prop :=
  a = .child → p.d.acceptChildren = true ∧ followOk d (lastName p.children) = true

/-- the bottom frame and the result list -/
def BotR (d : CmdDef) (a : Attach) (res : List Node) : Prop :=
  (∀ pl, a ≠ .place pl) ∧ followOk d (lastName res) = true

def ResR (T : Table) (res : List Node) : Prop := SibOK T res ∧ ∀ n ∈ res, isCmd T n ∧ NodeR T n

theorem FrameR.node {T : Table} {f : Frame} (h : FrameR T f) (c : List Bytes) : NodeR T (Frame.toNode f c) := by
  have hall : ∀ a ∈ f.st.arguments ++ f.st.extraArgs, ArgOK T a := List.forall_mem_append.mpr ⟨h.args, h.extra⟩
  exact .mk _ _ _ _ _ f.d h.dfn (fun c hc => (h.kids c hc).1) (fun c hc => (h.kids c hc).2) h.block h.sib
    (fun _ _ hm => (hall _ hm).1) (fun _ _ hm => (hall _ hm).2)
    (fun _ _ hm n hn => (hall _ hm n hn).1) (fun _ _ hm n hn => (hall _ hm n hn).2)

theorem FrameR.fresh {T : Table} (d : CmdDef) (hd : T.byName d.name = some d) (a : Attach)
    (h1 : ∀ pl, a = .place pl → d.kind = .test) (h2 : (∀ pl, a ≠ .place pl) → d.kind ≠ .test) :
    FrameR T { d := d, attach := a } :=
  ⟨h1, h2, hd, List.forall_mem_nil _, fun h => (h rfl).elim, SibOK.nil T, List.forall_mem_nil _, List.forall_mem_nil _⟩

theorem FrameR.node_isTest {T : Table} {f : Frame} (h : FrameR T f) {pl : Placement} (ha : f.attach = .place pl)
    (c : List Bytes) : isTest T (Frame.toNode f c) :=
  ⟨f.d, h.dfn, h.fitTest pl ha⟩

theorem FrameR.node_isCmd {T : Table} {f : Frame} (h : FrameR T f) (ha : ∀ pl, f.attach ≠ .place pl) (c : List Bytes) :
    isCmd T (Frame.toNode f c) :=
  ⟨f.d, h.dfn, h.fitCmd ha⟩

theorem FrameR.node_follows {T : Table} {f : Frame} (h : FrameR T f) {prev : Option Bytes} (c : List Bytes)
    (hfo : followOk f.d prev = true) : followsOk T prev (Frame.toNode f c) :=
  fun _ hd' => Option.some.inj (h.dfn.symm.trans hd') ▸ hfo

/-- what `check_next_arg` is offered when a test begins: the node of the test's frame as it is pushed (`plug` puts the
    finished node in its place) -/
theorem placeholder {T : Table} (hT : TableN T) (d : CmdDef) (hd : d ∈ T) (hk : d.kind = .test) :
    isTest T (.mk d.name [] [] [] []) ∧ NodeR T (.mk d.name [] [] [] []) :=
  have hf := FrameR.fresh d (hT d hd) (.place .nowhere) (fun _ _ => hk) (fun h => absurd rfl (h _))
  ⟨hf.node_isTest rfl [], hf.node []⟩

theorem checkNextArg_R {T : Table} {f : Frame} {ld : List Bytes} {t : ArgType} {v : AVal} {add ce : Bool} {st' : CState}
    {pl : Placement} (hf : FrameR T f) (hv : ∀ n, v = .test n → isTest T n ∧ NodeR T n)
    (h : checkNextArg f.d ld f.st t v add ce = .ok (some (st', pl))) : FrameR T { f with st := st' } := by
  obtain ⟨h1, h2, _⟩ := Safe.checkNextArg_stored h
  refine { hf with args := fun x hx => ?_, extra := fun x hx => ?_ }
  · cases h1 x hx with
    | old h => exact hf.args x h
    | slot => exact argOK_toArg T v _ hv
    | appended _ _ hvn hts =>
      exact fun m hm => (hts m hm).elim (· ▸ hv _ hvn) fun ⟨ts', hmem, hm'⟩ => hf.args _ hmem m hm'
  · cases h2 x hx with
    | old h => exact hf.extra x h
    | param => exact argOK_toArg T v _ hv

theorem plug_R {T : Table} (p f : Frame) (hp : FrameR T p) (hf : FrameR T f) (hr : RelR f.d f.attach p) :
    FrameR T (plug p f.attach (Frame.toNode f)) := by
  have hnode : NodeR T (Frame.toNode f) := hf.node []
  rcases plug_cases p f.attach (Frame.toNode f) with e | ⟨hat, e⟩ | ⟨k, hat, e⟩ | ⟨k, hat, e⟩ | ⟨k, ts, hat, hin, e⟩ <;>
    rw [e]
  · exact hp
  · obtain ⟨hacc, hfol⟩ := hr hat
    exact { hp with
      kids := List.forall_mem_snoc hp.kids ⟨hf.node_isCmd (fun _ h => by cases hat.symm.trans h) [], hnode⟩
      block := fun _ => hacc
      sib := hp.sib.snoc (hf.node_follows [] hfol) }
  · exact { hp with args := forall_mem_assocSet hp.args ⟨hf.node_isTest hat [], hnode⟩ }
  · exact { hp with extra := forall_mem_assocSet hp.extra ⟨hf.node_isTest hat [], hnode⟩ }
  · have hts := forall_mem_replaceLast (hp.args _ hin) ⟨hf.node_isTest hat [], hnode⟩
    exact { hp with args := forall_mem_assocSet hp.args hts }

theorem reassign_R {T : Table} (f f' : Frame) (hf : FrameR T f) (h : reassign f = some f') : FrameR T f' := by
  obtain ⟨_, a, ha, _, rfl⟩ := reassign_some h
  have hmoved := argOK_rekey T "list-of-flags" a (hf.args a (assocGet_some ha).1)
  exact { hf with args := List.forall_mem_snoc (forall_mem_assocErase _ hf.args) hmoved }

theorem closed {T : Table} (hT : TableN T) :
    StackThread.Closed T (FrameR T) RelR BotR (ResR T) where
  nil := ⟨SibOK.nil T, List.forall_mem_nil _⟩
  pushTop := fun d hd _ _ hk hfo =>
    ⟨FrameR.fresh d (hT d hd) .top (fun _ h => by cases h) fun _ => hk, fun _ h => (by cases h), hfo⟩
  pushChild := fun d hd _ _ hk hac hfo =>
    ⟨FrameR.fresh d (hT d hd) .child (fun _ h => by cases h) fun _ => hk, fun _ => ⟨hac, hfo⟩⟩
  pushTest := fun d hd _ _ _ pl hf hk hcna =>
    ⟨checkNextArg_R hf (fun _ hn => AVal.test.inj hn ▸ placeholder hT d hd hk) hcna,
      FrameR.fresh d (hT d hd) (.place pl) (fun _ _ => hk) (fun h => absurd rfl (h pl)), nofun⟩
  value := fun _ _ _ _ _ _ hf _ hn hcna => checkNextArg_R hf (fun n h => absurd h (hn n)) hcna
  dry := fun f ld _ st' pl hf hcna =>
    have ⟨ha, he⟩ := dry_same f.d ld f.st _ st' pl hcna
    { hf with args := ha ▸ hf.args, extra := he ▸ hf.extra }
  plug := plug_R
  reassign := reassign_R
  record := fun _ _ c hf hb hres =>
    ⟨hres.1.snoc (hf.node_follows c hb.2), List.forall_mem_snoc hres.2 ⟨hf.node_isCmd hb.1 c, hf.node c⟩⟩

theorem accepted_tree_roles {T : Table} (hT : TableN T) (text : Bytes) (prev : PState) (r : List Node)
    (h : parse T text prev = .accept r) : SibOK T r ∧ ∀ n ∈ r, isCmd T n ∧ NodeR T n :=
  StackThread.accepted_result (closed hT) text prev r h

end Roles
