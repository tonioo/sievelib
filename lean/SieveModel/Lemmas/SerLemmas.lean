import SieveModel.Model.Serialize
import SieveModel.Lemmas.Bytes
/-!
# The serializer (`tosieve`): a quoted item; when it answers on a list and on a node, and on a list with what
-/
namespace Ser

theorem renderItem_quoted (body : Bytes) : renderItem ([34] ++ body ++ [34]) = [34] ++ body ++ [34] := by
  unfold renderItem
  rw [if_pos]
  simp only [Bool.and_eq_true, decide_eq_true_eq, beq_iff_eq]
  exact ⟨⟨by simp, by simp⟩, by rw [List.getLast?_append]; simp⟩

theorem nodes_cons_some {T : Table} {i : Nat} {n : Node} {rest : List Node} {out : Bytes} :
    nodes T i (n :: rest) = some out ↔ ∃ a b, node T i n = some a ∧ nodes T i rest = some b ∧ out = a ++ b := by
  rw [nodes]; cases node T i n <;> cases nodes T i rest <;> simp [eq_comm]

theorem testsOut_cons_some {T : Table} {n m : Node} {rest : List Node} {out : Bytes} :
    testsOut T (n :: m :: rest) = some out ↔
      ∃ a b, node T 0 n = some a ∧ testsOut T (m :: rest) = some b ∧ out = a ++ [44, 32] ++ b := by
  rw [testsOut]; cases node T 0 n <;> cases testsOut T (m :: rest) <;> simp [eq_comm]

theorem renderArgs_cons_some {T : Table} {i : Nat} {d : CmdDef} {e : Bool} {a : Arg} {rest : List Arg} {out : List (String × Bytes)} :
    renderArgs T i d e (a :: rest) = some out ↔
      ∃ x xs, renderArg T i d e a = some x ∧ renderArgs T i d e rest = some xs ∧ out = x :: xs := by
  rw [renderArgs]; cases renderArg T i d e a <;> cases renderArgs T i d e rest <;> simp [eq_comm]

theorem renderArgs_ne_none (T : Table) (i : Nat) (d : CmdDef) (e : Bool) (l : List Arg) :
    renderArgs T i d e l ≠ none ↔ ∀ a ∈ l, renderArg T i d e a ≠ none :=
  List.forall_mem_of_cons (Q := fun l => renderArgs T i d e l ≠ none) (by simp [renderArgs])
    (fun a l => by rw [renderArgs]; cases renderArg T i d e a <;> cases renderArgs T i d e l <;> simp) l

theorem nodes_ne_none (T : Table) (i : Nat) (l : List Node) : nodes T i l ≠ none ↔ ∀ n ∈ l, node T i n ≠ none :=
  List.forall_mem_of_cons (Q := fun l => nodes T i l ≠ none) (by simp [nodes])
    (fun a l => by rw [nodes]; cases node T i a <;> cases nodes T i l <;> simp) l

theorem testsOut_ne_none (T : Table) (l : List Node) : testsOut T l ≠ none ↔ ∀ n ∈ l, node T 0 n ≠ none :=
  List.forall_mem_of_cons (Q := fun l => testsOut T l ≠ none) (by simp [testsOut])
    (fun a l => by cases l with
      | nil => simp [testsOut]
      | cons b r => rw [testsOut]; cases node T 0 a <;> cases testsOut T (b :: r) <;> simp) l

/-- a node prints when its name is defined, its arguments print, and its children print one level deeper -/
theorem node_ne_none {T : Table} {i : Nat} {name : Bytes} {args extra : List Arg} {children : List Node} {c : List Bytes}
    {d : CmdDef} (hd : T.byName name = some d) (ha : ∀ a ∈ args, renderArg T i d false a ≠ none)
    (he : ∀ a ∈ extra, renderArg T i d true a ≠ none) (hk : ∀ n ∈ children, node T (i + 4) n ≠ none) :
    node T i (.mk name args extra children c) ≠ none := by
  obtain ⟨ra, hra⟩ := Option.ne_none_iff_exists'.mp ((renderArgs_ne_none T i d false args).mpr ha)
  obtain ⟨re, hre⟩ := Option.ne_none_iff_exists'.mp ((renderArgs_ne_none T i d true extra).mpr he)
  obtain ⟨body, hb⟩ := Option.ne_none_iff_exists'.mp ((nodes_ne_none T (i + 4) children).mpr hk)
  rw [node, hd]
  simp only [hra, hre, hb]
  cases !d.acceptChildren <;> cases d.kind != .control <;> exact Option.some_ne_none _

end Ser
