import SieveModel.Lemmas.TokThread
/-!
# Threading a predicate that relates neighbouring stack frames through every parser step

`Threading.Closed` carries one predicate per frame.  The facts behind "a command in the wrong role or
position is rejected" are relations between a frame and the frame (or the result list) *below* it: the
machine checks them when the upper frame is pushed (`startCommand`, `pushCommand`, `pushTest`) and uses
them when it is popped (`plug`, `record`).  They stay valid in between because only the top frame of the
stack is ever modified, and a modification keeps the frame's definition and attachment.

`Closed T FP R BP ResP` lists what has to be shown about the ways the machine builds frames; `SP` is the
resulting invariant of the parser state; `accepted_result`: the result of an accepted parse is in `ResP`.
This is `Lemmas/TokThread.lean` with the tokens out of view (`TokP := fun _ => True`), and is derived from it.
-/
namespace StackThread
open Machine Args ArgsSafe

structure Closed (T : Table) (FP : Frame → Prop) (R : CmdDef → Attach → Frame → Prop)
    (BP : CmdDef → Attach → List Node → Prop) (ResP : List Node → Prop) : Prop where
  nil : ResP []
  pushTop : ∀ d ∈ T, ∀ res, ResP res → d.kind ≠ .test → followOk d (lastName res) = true →
    FP { d := d, attach := .top } ∧ BP d .top res
  pushChild : ∀ d ∈ T, ∀ f : Frame, FP f → d.kind ≠ .test → f.d.acceptChildren = true →
    followOk d (lastName f.children) = true → FP { d := d, attach := .child } ∧ R d .child f
  pushTest : ∀ d ∈ T, ∀ (f : Frame) (ld : List Bytes) (st' : CState) (pl : Placement), FP f → d.kind = .test →
    checkNextArg f.d ld f.st .test (.test (.mk d.name [] [] [] [])) = .ok (some (st', pl)) →
    FP { f with st := st' } ∧ FP { d := d, attach := .place pl } ∧ R d (.place pl) { f with st := st' }
  value : ∀ (f : Frame) (ld : List Bytes) (t : ArgType) (v : AVal) (st' : CState) (pl : Placement),
    FP f → Consistent t v → (∀ n, v ≠ .test n) →
    checkNextArg f.d ld f.st t v = .ok (some (st', pl)) → FP { f with st := st' }
  dry : ∀ (f : Frame) (ld : List Bytes) (n : Node) (st' : CState) (pl : Placement), FP f →
    checkNextArg f.d ld f.st .test (.test n) (add := false) = .ok (some (st', pl)) → FP { f with st := st' }
  plug : ∀ p f : Frame, FP p → FP f → R f.d f.attach p → FP (plug p f.attach (Frame.toNode f))
  reassign : ∀ f f', FP f → reassign f = some f' → FP f'
  record : ∀ (f : Frame) (res : List Node) (c : List Bytes), FP f → BP f.d f.attach res → ResP res →
    ResP (res ++ [Frame.toNode f c])

variable {T : Table} {FP : Frame → Prop} {R : CmdDef → Attach → Frame → Prop}
  {BP : CmdDef → Attach → List Node → Prop} {ResP : List Node → Prop}

/-- the stack invariant: every frame in `FP`, related to the frame below it; the bottom frame related to
    the result list -/
def StackP (FP : Frame → Prop) (R : CmdDef → Attach → Frame → Prop) (BP : CmdDef → Attach → List Node → Prop) :
    List Frame → List Node → Prop
  | [], _ => True
  | [f], res => FP f ∧ BP f.d f.attach res
  | g :: f :: r, res => FP g ∧ R g.d g.attach f ∧ StackP FP R BP (f :: r) res

def SP (FP : Frame → Prop) (R : CmdDef → Attach → Frame → Prop) (BP : CmdDef → Attach → List Node → Prop)
    (ResP : List Node → Prop) (s : PState) : Prop :=
  StackP FP R BP s.stack s.result ∧ ResP s.result

def KeepsP (FP : Frame → Prop) (R : CmdDef → Attach → Frame → Prop) (BP : CmdDef → Attach → List Node → Prop)
    (ResP : List Node → Prop) (r : FnResult) : Prop :=
  match r with
  | .ret _ s' _ => SP FP R BP ResP s'
  | _ => True

theorem StackP.head {f : Frame} {r : List Frame} {res : List Node} (h : StackP FP R BP (f :: r) res) : FP f := by
  cases r <;> exact h.1

theorem StackP.retop {f f' : Frame} {r : List Frame} {res : List Node} (h : StackP FP R BP (f :: r) res)
    (hf : FP f') (hd : f'.d = f.d) (ha : f'.attach = f.attach) : StackP FP R BP (f' :: r) res := by
  cases r with
  | nil => exact ⟨hf, by rw [hd, ha]; exact h.2⟩
  | cons g r => exact ⟨hf, by rw [hd, ha]; exact h.2.1, h.2.2⟩

theorem SP.fields {s s' : PState} (h : SP FP R BP ResP s) (h1 : s'.stack = s.stack) (h2 : s'.result = s.result) :
    SP FP R BP ResP s' := by
  unfold SP; rw [h1, h2]; exact h

theorem SP.top {s : PState} {f : Frame} {rest : List Frame} (h : SP FP R BP ResP s) (hs : s.stack = f :: rest) :
    StackP FP R BP (f :: rest) s.result := hs ▸ h.1

theorem stackP_iff (st : List Frame) (res : List Node) : StackP FP R BP st res ↔ TokThread.StackP FP R BP st res := by
  induction st with
  | nil => exact .rfl
  | cons g r ih => cases r with
    | nil => exact .rfl
    | cons f r => exact and_congr_right fun _ => and_congr_right fun _ => ih

theorem SP.iff_tok {s : PState} : SP FP R BP ResP s ↔ TokThread.SP (fun _ => True) FP R BP ResP s :=
  and_congr (stackP_iff _ _) (iff_self_and.mpr fun _ x _ => ⟨⟨.string, 0, x⟩, trivial, rfl, rfl⟩)

theorem Closed.toTok (C : Closed T FP R BP ResP) : TokThread.Closed (fun _ => True) T FP R BP ResP where
  nil := C.nil
  pushTop := fun d hd _ => C.pushTop d hd
  pushChild := fun d hd _ => C.pushChild d hd
  pushTest := fun d hd _ => C.pushTest d hd
  value := fun f ld t v st' pl hf ho => C.value f ld t v st' pl hf ho.consistent ho.ne_test
  dry := C.dry
  plug := C.plug
  reassign := C.reassign
  record := C.record

variable (C : Closed T FP R BP ResP)
include C

theorem direct_P {s mid : PState} {k : TokKind} {text : Bytes} {c : Closing} {rew : Bool}
    (he : Direct T s text k mid c rew) (h : SP FP R BP ResP s) : SP FP R BP ResP mid :=
  SP.iff_tok.mpr (TokThread.direct_P C.toTok he (SP.iff_tok.mp h) (tok := ⟨k, 0, text⟩) trivial rfl rfl)

theorem stepEff_P {s s' : PState} {tok : Tok} {rew : Bool} (h : SP FP R BP ResP s) (he : StepEff T s tok s' rew) :
    SP FP R BP ResP s' :=
  SP.iff_tok.mpr (TokThread.stepEff_P C.toTok (SP.iff_tok.mp h) trivial he)

theorem accepted_result (text : Bytes) (prev : PState) (r : List Node) (h : parse T text prev = .accept r) : ResP r :=
  TokThread.accepted_result C.toTok text prev r (fun _ _ _ _ => trivial) h

end StackThread
