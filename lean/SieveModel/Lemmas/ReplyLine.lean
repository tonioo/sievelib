import SieveModel.Lemmas.Reader
import SieveModel.Lemmas.ReplyDecode
/-!
# Whole status replies at the reader level (T-REPLY)

`readResponse` on pending bytes that begin with a status line: the reply is decoded from the bytes
before the first CRLF and exactly the rest stays pending — for every buffer/stream split and every
recv schedule (the statements are about `pending`).
-/
namespace ReplyLine
open Reader Client ReplyDecode

def NoLF (l : Bytes) : Prop := ∀ c ∈ l, c ≠ 10

@[simp] theorem NoLF_nil : NoLF [] := nofun
@[simp] theorem NoLF_cons {c : UInt8} {l : Bytes} : NoLF (c :: l) ↔ c ≠ 10 ∧ NoLF l := List.forall_mem_cons
@[simp] theorem NoLF_append {a b : Bytes} : NoLF (a ++ b) ↔ NoLF a ∧ NoLF b := List.forall_mem_append

theorem noLF_of_class {p : UInt8 → Bool} {c : Bytes} (h : ∀ x ∈ c, p x = true) (h10 : p 10 = false := by decide) :
    NoLF c :=
  fun x hx => beq_eq_false_iff_ne.mp (B.ne_of_class (h x hx) 10 h10)

theorem takeWhile_noLF {l : Bytes} (h : NoLF l) : l.takeWhile (· != 10) = l := by
  simpa using (List.span_append (p := (· != 10)) l [] (fun c hc => by simpa using h c hc) nofun).1

theorem splitCRLF_none_of_noLF (l : Bytes) (h : NoLF l) : splitCRLF l = none := by
  cases hs : splitCRLF l with
  | none => rfl
  | some p =>
    obtain ⟨rfl, _⟩ := (splitCRLF_eq_some (l := p.1) (r := p.2)).mp hs
    exact absurd rfl (h 10 (by simp))

/-- a line `__read_line` takes for a status line with status `s` and data `d` -/
structure StatusLine (line : Bytes) (s : Status) (d : Option Bytes) : Prop where
  one : splitCRLF line = none
  status : respMatch line = some (s, d)

theorem StatusLine.first {line : Bytes} {s : Status} {d : Option Bytes} (h : StatusLine line s d) :
    line.isEmpty = false ∧ sizeMatch line = none := by
  have hs := h.status
  unfold sizeMatch
  split
  · cases hs
  · exact ⟨by cases line with | nil => cases hs | cons _ _ => rfl, rfl⟩

/-- `__read_line` on a status line, once the raw line is there: what is left to evaluate -/
theorem readLine_status {st : RState} {line rest : Bytes} {s : Status} {d : Option Bytes}
    (hp : pending st = line ++ 13 :: 10 :: rest) (h : StatusLine line s d) :
    ∃ st1, Leaves st rest st1 ∧
      readLine st = match s with
        | .BYE => .error .error
        | .NO => (match parseError d st1 with | .error e => .error e | .ok st2 => .ok (.response .NO d, st2))
        | .OK => (match d.bind trailingSize with
          | some n => (match readBlock (n + 2) st1 with | .error e => .error e | .ok (_, st2) => .ok (.response .OK d, st2))
          | none => .ok (.response .OK d, st1)) := by
  obtain ⟨st1, h1, k1⟩ := rawLine_pending st line rest hp h.one
  refine ⟨st1, k1, ?_⟩
  rw [readLine, h1]
  simp only [h.first.1, Bool.false_eq_true, if_false, h.first.2, h.status]
  cases s <;> rfl

theorem readLine_ok (st : RState) (line rest : Bytes) (d : Option Bytes)
    (hp : pending st = line ++ 13 :: 10 :: rest) (h : StatusLine line .OK d) (hts : d.bind trailingSize = none) :
    ∃ st1, readLine st = .ok (.response .OK d, st1) ∧ Leaves st rest st1 := by
  obtain ⟨st1, k1, he⟩ := readLine_status hp h
  exact ⟨st1, by rw [he]; simp only [hts], k1⟩

/-- an `OK` line that ends with a size indication: the literal and its CRLF are consumed with it -/
theorem readLine_ok_literal (st : RState) (line text rest : Bytes) (d : Option Bytes)
    (hp : pending st = line ++ 13 :: 10 :: (text ++ 13 :: 10 :: rest)) (h : StatusLine line .OK d)
    (hts : d.bind trailingSize = some text.length) :
    ∃ st2, readLine st = .ok (.response .OK d, st2) ∧ Leaves st rest st2 := by
  obtain ⟨st1, k1, he⟩ := readLine_status hp h
  obtain ⟨st2, hb, k2⟩ := readBlock_crlf st1 text rest k1.pending
  exact ⟨st2, by rw [he]; simp only [hts, hb], k1.trans k2⟩

/-- a `NO` line: the reader state after it is what `__parse_error` makes of the text behind the status -/
theorem readLine_no (st : RState) (line rest : Bytes) (d : Option Bytes)
    (hp : pending st = line ++ 13 :: 10 :: rest) (h : StatusLine line .NO d) :
    ∃ st1, Leaves st rest st1 ∧
      (∀ st2, parseError d st1 = .ok st2 → readLine st = .ok (.response .NO d, st2)) ∧
      (∀ e, parseError d st1 = .error e → readLine st = .error e) := by
  obtain ⟨st1, k1, he⟩ := readLine_status hp h
  exact ⟨st1, k1, fun _ hpe => by rw [he]; simp only [hpe], fun _ hpe => by rw [he]; simp only [hpe]⟩

theorem readLine_bye (st : RState) (line rest : Bytes) (d : Option Bytes)
    (hp : pending st = line ++ 13 :: 10 :: rest) (h : StatusLine line .BYE d) : readLine st = .error .error :=
  let ⟨_, _, he⟩ := readLine_status hp h
  he

theorem readResponse_status (nbl : Option Nat) (st st1 : RState) (c : Status) (d : Option Bytes)
    (h : readLine st = .ok (.response c d, st1)) : readResponse nbl st = .ok (⟨some c, d, []⟩, st1) := by
  unfold readResponse respLoop
  rw [h]

theorem readResponse_error (nbl : Option Nat) (st : RState) (e : RErr) (h : readLine st = .error e) :
    readResponse nbl st = .error e := by
  unfold readResponse respLoop
  rw [h]

/-- the status atom is recognised whatever follows it; group 2 is what stands behind the blanks, up to a LF -/
theorem respMatch_bytes (s : Status) (rest : Bytes) :
    respMatch (s.bytes ++ rest) = some (s,
      if ((rest.dropWhile B.isWs).takeWhile (· != 10)).isEmpty then none
      else some ((rest.dropWhile B.isWs).takeWhile (· != 10))) := by
  cases s <;> rfl

theorem bytes_noLF (s : Status) : NoLF s.bytes := by
  unfold NoLF; cases s <;> decide

/-- the status, then a blank and the rest of the line if there is one -/
def statusLine (s : Status) (tail : Bytes) : Bytes := s.bytes ++ (if tail.isEmpty then [] else 32 :: tail)

/-- group 2 of the status pattern: absent when nothing follows the status -/
def dataOf (tail : Bytes) : Option Bytes := if tail.isEmpty then none else some tail

theorem parseError_dataOf (t : Bytes) (st : RState) : parseError (dataOf t) st = parseError (some t) st := by
  cases t <;> rfl

theorem trailingSize_dataOf (t : Bytes) : (dataOf t).bind trailingSize = trailingSize t := by
  cases t <;> rfl

/-- a line `OK` / `NO` / `BYE`, alone or followed by a blank and a text that begins with a visible byte and holds no
    LF, is read as that status with that text as data -/
theorem StatusLine.of_statusLine (s : Status) (tail : Bytes) (hlf : NoLF tail) (hws : ∀ c ∈ tail.head?, B.isWs c = false) :
    StatusLine (statusLine s tail) s (dataOf tail) where
  one := by
    refine splitCRLF_none_of_noLF _ (NoLF_append.mpr ⟨bytes_noLF s, ?_⟩)
    split
    · exact NoLF_nil
    · exact NoLF_cons.mpr ⟨by decide, hlf⟩
  status := by
    rw [statusLine, respMatch_bytes]
    cases tail with
    | nil => rfl
    | cons c t =>
      have hd : List.dropWhile B.isWs (32 :: c :: t) = c :: t := by
        simp only [List.dropWhile, show B.isWs 32 = true by decide, hws c rfl]
      simp only [List.isEmpty_cons, Bool.false_eq_true, if_false, hd, takeWhile_noLF hlf, dataOf]

/-- a line `{n}`: a literal of `n` octets follows -/
theorem readLine_size (st : RState) (ds rest : Bytes) (hne : ds ≠ []) (hall : ∀ d ∈ ds, B.isDigit d = true)
    (hp : pending st = 123 :: (ds ++ [125]) ++ 13 :: 10 :: rest) :
    ∃ st1, readLine st = .ok (.literal (B.decToNat ds), st1) ∧ Leaves st rest st1 := by
  have hl : NoLF (123 :: (ds ++ [125])) := by
    rw [NoLF_cons, NoLF_append, NoLF_cons]
    exact ⟨by decide, noLF_of_class hall, by decide, NoLF_nil⟩
  obtain ⟨st1, h1, k1⟩ := rawLine_pending st _ rest hp (splitCRLF_none_of_noLF _ hl)
  refine ⟨st1, ?_, k1⟩
  rw [readLine, h1]
  simp only [List.isEmpty_cons, Bool.false_eq_true, if_false, sizeMatch_header _ ds hne hall rfl []]

theorem readLine_empty (st : RState) (rest : Bytes) (hp : pending st = 13 :: 10 :: rest) :
    ∃ st1, readLine st = .ok (.line [], st1) ∧ Leaves st rest st1 := by
  obtain ⟨st1, h1, k1⟩ := rawLine_pending st [] rest hp rfl
  exact ⟨st1, by rw [readLine, h1]; rfl, k1⟩

/-- **a literal body is read by count**: `{n}` CRLF, `n` octets of anything (lines that look like
    `OK`, `NO`, `{5}` … included), CRLF, `OK` CRLF — the content returned is exactly those `n` octets
    (completed with a final CRLF when they do not end with one) and exactly the rest stays pending -/
-- `3 ≤ fuel`: the loop goes round three times here — the size line with its block, the empty line, the status line
theorem respLoop_literal_ok (nbl : Option Nat) (fuel : Nat) (st : RState) (ds body rest : Bytes) (hf : 3 ≤ fuel)
    (hne : ds ≠ []) (hall : ∀ d ∈ ds, B.isDigit d = true) (hval : B.decToNat ds = body.length)
    (hp : pending st = 123 :: (ds ++ [125]) ++ 13 :: 10 :: (body ++ 13 :: 10 :: (sb "OK" ++ 13 :: 10 :: rest))) :
    ∃ st', respLoop nbl fuel [] 0 st =
        .ok (⟨some .OK, none, if endsWithCRLF body then body else body ++ CRLF⟩, st') ∧ pending st' = rest := by
  obtain ⟨fuel, rfl⟩ := Nat.exists_eq_add_of_le' hf
  obtain ⟨st1, h1, k1⟩ := readLine_size st ds _ hne hall hp
  obtain ⟨st2, h2, k2⟩ := readBlock_prefix st1 body _ k1.pending
  obtain ⟨st3, h3, k3⟩ := readLine_empty st2 _ k2.pending
  obtain ⟨st4, h4, k4⟩ := readLine_ok st3 (sb "OK") rest none k3.pending (StatusLine.of_statusLine .OK [] nofun nofun) rfl
  refine ⟨st4, ?_, k4.pending⟩
  rw [hval] at h1
  -- four reads: the size line, the block, the CRLF behind it (an empty line: skipped, or taken as the end of a last
  -- line that had none), the status line
  by_cases he : endsWithCRLF body = true
  · simp only [respLoop, h1, h2, List.nil_append, he, if_true, h3, List.isEmpty_nil, h4]
  · simp only [respLoop, h1, h2, List.nil_append, he, Bool.false_eq_true, if_false, h3, h4, List.append_nil]

theorem readResponse_literal_ok (nbl : Option Nat) (st : RState) (ds body rest : Bytes) (hne : ds ≠ [])
    (hall : ∀ d ∈ ds, B.isDigit d = true) (hval : B.decToNat ds = body.length)
    (hp : pending st = 123 :: (ds ++ [125]) ++ 13 :: 10 :: (body ++ 13 :: 10 :: (sb "OK" ++ 13 :: 10 :: rest))) :
    ∃ st', readResponse nbl st =
        .ok (⟨some .OK, none, if endsWithCRLF body then body else body ++ CRLF⟩, st') ∧ pending st' = rest := by
  refine respLoop_literal_ok nbl _ st ds body rest ?_ hne hall hval hp
  have := congrArg List.length hp
  simp only [pending, List.length_append, List.length_cons] at this
  omega

end ReplyLine
