import SieveModel.Lemmas.Reader
import SieveModel.Lemmas.ClientState
/-! Lifting T-READ to the client operations: the result of every operation, the bytes it writes and
    the state it leaves depend only on the pending bytes, not on their segmentation. -/
namespace Client
open Reader

/-- client states that differ only in buffer/stream split and recv schedule -/
def SameC (a b : Client) : Prop :=
  Same a.r b.r ∧ a.connected = b.connected ∧ a.authenticated = b.authenticated ∧ a.caps = b.caps ∧
    a.tls = b.tls ∧ a.writes = b.writes

def RelC {α : Type} (x y : Res α) : Prop := x.1 = y.1 ∧ SameC x.2 y.2

theorem release_same (a b : RState) (h : Same a b) :
    Same { a with net := a.net.release } { b with net := b.net.release } := by
  obtain ⟨hp, hc, hm, hl⟩ := h
  unfold Net.release
  rw [hl]
  cases hlat : b.net.later with
  | nil => simp only; exact ⟨hp, hc, hm, by rw [hl, hlat]⟩
  | cons seg rest =>
    simp only
    refine ⟨?_, hc, hm, rfl⟩
    simp only [pending] at hp ⊢
    rw [← List.append_assoc, ← List.append_assoc, hp]

theorem write_congr (a b : Client) (h : SameC a b) (x : Bytes) : SameC (write a x) (write b x) := by
  obtain ⟨hr, h1, h2, h3, h4, h5⟩ := h
  unfold write
  exact ⟨release_same a.r b.r hr, h1, h2, h3, h4, by simp only; rw [h4, h5]⟩

@[elab_as_elim]
theorem RelC.elim {α : Type} {motive : Res α → Res α → Prop} {x y : Res α} (h : RelC x y)
    (mk : ∀ v c d, SameC c d → motive (v, c) (v, d)) : motive x y :=
  RelQ.elim h mk

theorem SameC.with_r {a b : Client} (h : SameC a b) {s t : RState} (hst : Same s t) :
    SameC { a with r := s } { b with r := t } :=
  ⟨hst, h.2⟩

theorem awaitReply_congr (a b : Client) (h : SameC a b) (nbl : Option Nat) :
    RelC (awaitReply a nbl) (awaitReply b nbl) := by
  unfold awaitReply
  exact (readResponse_congr nbl _ _ h.1).elim (fun _ => ⟨rfl, h⟩) fun _ _ _ hst => ⟨rfl, h.with_r hst⟩

theorem setErrmsg_congr (a b : Client) (h : SameC a b) (m : Bytes) : SameC (setErrmsg a m) (setErrmsg b m) :=
  h.with_r ⟨h.1.1, h.1.2.1, rfl, h.1.2.2.2⟩

/-- so every operation of a session gives related results on related clients (`sendCommand_rel` … `runOps_rel`) -/
theorem SameC.respects : Respects SameC where
  conn := fun h => h.2.1
  auth := fun h => h.2.2.1
  caps := fun h => h.2.2.2.1
  write := write_congr _ _
  await := awaitReply_congr _ _
  errmsg := setErrmsg_congr _ _

theorem sendCommand_congr (a b : Client) (h : SameC a b) (name : Bytes) (args : List WArg)
    (extra : List Bytes) (nbl : Option Nat) :
    RelC (sendCommand a name args extra nbl) (sendCommand b name args extra nbl) :=
  sendCommand_rel SameC.respects h name args extra nbl

theorem bind_congr {α β : Type} (x y : Res α) (h : RelC x y) (k : Except RErr α → Client → Res β)
    (hk : ∀ v c d, SameC c d → RelC (k v c) (k v d)) : RelC (k x.1 x.2) (k y.1 y.2) :=
  h.elim hk

theorem getCapabilities_congr (a b : Client) (h : SameC a b) : RelC (getCapabilities a) (getCapabilities b) := by
  unfold getCapabilities
  refine (readResponse_congr none _ _ h.1).elim (fun _ => ⟨rfl, h⟩) fun resp s t hst => ?_
  have hc : ∀ caps, SameC { a with r := s, caps := caps } { b with r := t, caps := caps } :=
    fun _ => ⟨hst, h.2.1, h.2.2.1, rfl, h.2.2.2.2⟩
  simp only [h.2.2.2.1]
  split
  · exact ⟨rfl, hc _⟩
  · split <;> exact ⟨rfl, hc _⟩

theorem finishAuth_congr (a b : Client) (h : SameC a b) (sel : Option Bytes) (login password authz : Bytes) :
    RelC (finishAuth a sel login password authz) (finishAuth b sel login password authz) := by
  unfold finishAuth
  cases sel with
  | none => exact ⟨rfl, setErrmsg_congr a b h _⟩
  | some m =>
    simp only
    refine (authWith_rel SameC.respects h m login password authz).elim fun v c d hcd => ?_
    rcases v with _ | _ | _
    · exact ⟨rfl, hcd⟩
    · exact ⟨rfl, hcd⟩
    exact ⟨rfl, hcd.1, hcd.2.1, rfl, hcd.2.2.2⟩

theorem authenticate_congr (a b : Client) (h : SameC a b) (login password authz : Bytes) (authmech : Option Bytes) :
    RelC (authenticate a login password authz authmech) (authenticate b login password authz authmech) := by
  unfold authenticate
  rw [show capGet a (sb "SASL") = capGet b (sb "SASL") by simp only [capGet, h.2.2.2.1]]
  cases capGet b (sb "SASL") with
  | none => exact ⟨rfl, h⟩
  | some v => exact finishAuth_congr a b h _ _ _ _

/-- two deliveries of the same server bytes to a fresh connection -/
theorem freshConn_same (c : Client) (n1 n2 : Net) (hs : n1.stream = n2.stream) (hl : n1.later = n2.later) :
    SameC (freshConn c n1) (freshConn c n2) := by
  refine ⟨⟨?_, rfl, rfl, hl⟩, rfl, rfl, rfl, rfl, rfl⟩
  simp only [freshConn, pending, hs]

/-- **C05 for `connect` without STARTTLS**: the greeting, the mechanism choice, the AUTHENTICATE
    exchange (all its steps) and the final state do not depend on how the server's bytes are cut into
    recv results.  (With STARTTLS the statement is deliberately false: bytes that reached the buffer before
    the handshake are discarded, bytes still in the socket are not — see C10.) -/
theorem connect_plain_congr (c : Client) (env : ConnEnv) (n1 n2 : Net) (hs : n1.stream = n2.stream)
    (hl : n1.later = n2.later) (login password authz : Bytes) (authmech : Option Bytes) :
    RelC (connect c env n1 login password authz false authmech) (connect c env n2 login password authz false authmech) := by
  unfold connect
  split
  · exact ⟨rfl, ⟨rfl, rfl, rfl, rfl⟩, rfl, rfl, rfl, rfl, rfl⟩
  · refine (getCapabilities_congr _ _ (freshConn_same c n1 n2 hs hl)).elim fun v c d hcd => ?_
    rcases v with _ | _ | _
    · exact ⟨rfl, hcd⟩
    · exact ⟨rfl, hcd⟩
    exact authenticate_congr c d hcd _ _ _ _

end Client
