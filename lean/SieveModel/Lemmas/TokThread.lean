import SieveModel.Lemmas.Effect
import SieveModel.Lemmas.Gating
import SieveModel.Lemmas.ArgsSafe
/-!
# An invariant scheme threaded through the frame stack, with the tokens in view

A predicate per frame, a relation to the frame below (or, for the bottom frame, to the result list), a predicate on
the result list.  `Closed` lists what has to be shown about the ways the machine builds frames; the closure conditions
see **which token** made the machine act: a frame is pushed for an identifier token that names its definition, a scalar
argument is offered as the text of a string / multi-line / number / tag token with the matching argument type.  `TokP`
is any predicate the delivered tokens satisfy (in the end: "is a token of the lexed script").  `SP` is the resulting
invariant of the parser state; `accepted_result`: the result of an accepted parse is in `ResP`.
`Lemmas/StackThread.lean` and `Lemmas/Threading.lean` are this scheme with less in view.
-/
namespace TokThread
open Machine Args ArgsSafe

/-- every item of a string list under construction is the text of a string token -/
def ItemsP (TokP : Tok → Prop) (l : List Bytes) : Prop := ∀ x ∈ l, ∃ tok, TokP tok ∧ tok.kind = .string ∧ tok.text = x

/-- what the parser offers to `check_next_arg` for a scalar or list token: the token's own text under the argument type of
    its kind; a bracketed list as a list of string-token texts -/
def Offered (TokP : Tok → Prop) (t : ArgType) (v : AVal) : Prop :=
  (∃ tok, TokP tok ∧ v = .str tok.text ∧
    (((tok.kind = .string ∨ tok.kind = .multiline) ∧ t = .string) ∨ (tok.kind = .number ∧ t = .number) ∨
      (tok.kind = .tag ∧ t = .tag))) ∨
  (t = .stringlist ∧ ∃ l, v = .strs l ∧ ItemsP TokP l)

theorem Offered.consistent {TokP : Tok → Prop} {t : ArgType} {v : AVal} (h : Offered TokP t v) : Consistent t v := by
  rcases h with ⟨_, _, rfl, ⟨_, rfl⟩ | ⟨_, rfl⟩ | ⟨_, rfl⟩⟩ | ⟨rfl, _, rfl, _⟩ <;> trivial

theorem Offered.ne_test {TokP : Tok → Prop} {t : ArgType} {v : AVal} (h : Offered TokP t v) (n : Node) : v ≠ .test n := by
  rcases h with ⟨_, _, rfl, _⟩ | ⟨_, _, rfl, _⟩ <;> nofun

/-- the identifier token a frame was pushed for -/
def Named (TokP : Tok → Prop) (T : Table) (d : CmdDef) : Prop :=
  ∃ tok, TokP tok ∧ tok.kind = .identifier ∧ T.lookup tok.text = some d

structure Closed (TokP : Tok → Prop) (T : Table) (FP : Frame → Prop) (R : CmdDef → Attach → Frame → Prop)
    (BP : CmdDef → Attach → List Node → Prop) (ResP : List Node → Prop) : Prop where
  nil : ResP []
  pushTop : ∀ d ∈ T, Named TokP T d → ∀ res, ResP res → d.kind ≠ .test → followOk d (lastName res) = true →
    FP { d := d, attach := .top } ∧ BP d .top res
  pushChild : ∀ d ∈ T, Named TokP T d → ∀ f : Frame, FP f → d.kind ≠ .test → f.d.acceptChildren = true →
    followOk d (lastName f.children) = true → FP { d := d, attach := .child } ∧ R d .child f
  pushTest : ∀ d ∈ T, Named TokP T d → ∀ (f : Frame) (ld : List Bytes) (st' : CState) (pl : Placement), FP f → d.kind = .test →
    checkNextArg f.d ld f.st .test (.test (.mk d.name [] [] [] [])) = .ok (some (st', pl)) →
    FP { f with st := st' } ∧ FP { d := d, attach := .place pl } ∧ R d (.place pl) { f with st := st' }
  value : ∀ (f : Frame) (ld : List Bytes) (t : ArgType) (v : AVal) (st' : CState) (pl : Placement),
    FP f → Offered TokP t v →
    checkNextArg f.d ld f.st t v = .ok (some (st', pl)) → FP { f with st := st' }
  dry : ∀ (f : Frame) (ld : List Bytes) (n : Node) (st' : CState) (pl : Placement), FP f →
    checkNextArg f.d ld f.st .test (.test n) (add := false) = .ok (some (st', pl)) → FP { f with st := st' }
  plug : ∀ p f : Frame, FP p → FP f → R f.d f.attach p → FP (plug p f.attach (Frame.toNode f))
  reassign : ∀ f f', FP f → reassign f = some f' → FP f'
  record : ∀ (f : Frame) (res : List Node) (c : List Bytes), FP f → BP f.d f.attach res → ResP res →
    ResP (res ++ [Frame.toNode f c])

variable {TokP : Tok → Prop} {T : Table} {FP : Frame → Prop} {R : CmdDef → Attach → Frame → Prop}
  {BP : CmdDef → Attach → List Node → Prop} {ResP : List Node → Prop}

/-- the stack invariant: every frame in `FP`, related to the frame below it; the bottom frame related to
    the result list -/
def StackP (FP : Frame → Prop) (R : CmdDef → Attach → Frame → Prop) (BP : CmdDef → Attach → List Node → Prop) :
    List Frame → List Node → Prop
  | [], _ => True
  | [f], res => FP f ∧ BP f.d f.attach res
  | g :: f :: r, res => FP g ∧ R g.d g.attach f ∧ StackP FP R BP (f :: r) res

def SP (TokP : Tok → Prop) (FP : Frame → Prop) (R : CmdDef → Attach → Frame → Prop) (BP : CmdDef → Attach → List Node → Prop)
    (ResP : List Node → Prop) (s : PState) : Prop :=
  StackP FP R BP s.stack s.result ∧ ResP s.result ∧ ItemsP TokP s.curlist

theorem StackP.head {f : Frame} {r : List Frame} {res : List Node} (h : StackP FP R BP (f :: r) res) : FP f := by
  cases r <;> exact h.1

theorem StackP.retop {f f' : Frame} {r : List Frame} {res : List Node} (h : StackP FP R BP (f :: r) res)
    (hf : FP f') (hd : f'.d = f.d) (ha : f'.attach = f.attach) : StackP FP R BP (f' :: r) res := by
  cases r with
  | nil => exact ⟨hf, by rw [hd, ha]; exact h.2⟩
  | cons g r => exact ⟨hf, by rw [hd, ha]; exact h.2.1, h.2.2⟩

theorem SP.fields {s s' : PState} (h : SP TokP FP R BP ResP s) (h1 : s'.stack = s.stack) (h2 : s'.result = s.result)
    (h3 : s'.curlist = s.curlist) : SP TokP FP R BP ResP s' := by
  unfold SP; rw [h1, h2, h3]; exact h

theorem SP.top {s : PState} {f : Frame} {rest : List Frame} (h : SP TokP FP R BP ResP s) (hs : s.stack = f :: rest) :
    StackP FP R BP (f :: rest) s.result := hs ▸ h.1

theorem offered_of_valueType {tok : Tok} {t : ArgType} (htok : TokP tok) (h : valueType tok.kind = some t) :
    Offered TokP t (.str tok.text) := by
  refine .inl ⟨tok, htok, rfl, ?_⟩
  cases hk : tok.kind <;> rw [hk] at h <;> cases h <;> simp

variable (C : Closed TokP T FP R BP ResP)
include C

theorem plug_P {f p : Frame} {r : List Frame} {res : List Node} (h : StackP FP R BP (f :: p :: r) res) :
    StackP FP R BP (plug p f.attach (Frame.toNode f) :: r) res :=
  h.2.2.retop (C.plug p f h.2.2.head h.1 h.2.1) (plug_d p _ _) (plug_attach p _ _)

theorem upLoop_P {res : List Node} {rest : List Frame} {f : Frame} (h : StackP FP R BP (f :: rest) res) :
    StackP FP R BP (upLoop f rest).1 res := by
  fun_induction upLoop f rest with
  | case1 f => trivial
  | case2 f p rest p' _ ih => exact ih (plug_P C h)
  | case3 f p rest p' _ => exact plug_P C h

theorem up_P {s s' : PState} (hu : up s = .ok s') (h : SP TokP FP R BP ResP s) : SP TokP FP R BP ResP s' := by
  obtain ⟨f, rest, hst, hp⟩ := up_ok hu
  have hstk := hp.stack
  have he := hp.frame
  obtain ⟨rfl, hr, _⟩ | ⟨_, hr, _⟩ := hp.record
  · exact ⟨by rw [hstk]; trivial, by rw [hr]; exact C.record f _ _ (h.top hst).1 (h.top hst).2 h.2.1, by rw [he]; exact h.2.2⟩
  · exact ⟨by rw [hstk, hr]; exact upLoop_P C (h.top hst), by rw [hr]; exact h.2.1, by rw [he]; exact h.2.2⟩

theorem complLoop_P {ld : List Bytes} {res : List Node} {rest : List Frame} {f : Frame}
    (h : StackP FP R BP (f :: rest) res) {o : ComplOut} (ho : complLoop ld f rest = .ok o) :
    StackP FP R BP o.stack res :=
  complLoop_inv (I := fun l => StackP FP R BP l res) (plug_P C)
    (fun h hcna => h.retop (C.dry _ _ _ _ _ h.head hcna) rfl rfl) h ho

theorem completion_P {s s' : PState} {ts b : Bool} (hc : completion s ts = .ok (b, s'))
    (h : SP TokP FP R BP ResP s) : SP TokP FP R BP ResP s' := by
  obtain ⟨he, hstk⟩ := completion_ok hc
  rw [he]
  refine ⟨?_, h.2⟩
  obtain ⟨_, hs⟩ | ⟨f, rest, o, hst, ho, _, hs⟩ := hstk
  · exact hs ▸ h.1
  · exact hs ▸ complLoop_P C (h.top hst) ho

theorem run_P {c : Closing} {mid s' : PState} (hc : c.run mid s') (h : SP TokP FP R BP ResP mid) :
    SP TokP FP R BP ResP s' := by
  cases c with
  | done => cases hc; exact h
  | completion ts => exact completion_P C hc h
  | up => exact up_P C hc h

theorem direct_P {s mid : PState} {tok : Tok} {k : TokKind} {text : Bytes} {c : Closing} {rew : Bool}
    (he : Direct T s text k mid c rew) (h : SP TokP FP R BP ResP s) (htok : TokP tok) (hk : tok.kind = k)
    (ht : tok.text = text) : SP TokP FP R BP ResP mid := by
  subst ht
  have named : ∀ {ld d}, k = .identifier → getCommand T ld tok.text = .ok d → d ∈ T ∧ Named TokP T d := fun hi hd =>
    have hl := Gating.getCommand_in_table T _ _ _ _ hd
    ⟨Table.lookup_mem hl, tok, htok, hk.trans hi, hl⟩
  cases he with
  | command _ hd hkind hst hfo =>
    obtain ⟨hdT, hn⟩ := named rfl hd
    exact ⟨C.pushTop _ hdT hn _ h.2.1 hkind hfo, h.2⟩
  | child _ hd hkind hst hac hfo =>
    obtain ⟨hdT, hn⟩ := named rfl hd
    obtain ⟨h1, h2⟩ := C.pushChild _ hdT hn _ (h.top hst).head hkind hac hfo
    exact ⟨⟨h1, h2, h.top hst⟩, h.2⟩
  | item _ _ =>
    refine ⟨h.1, h.2.1, fun x hx => ?_⟩
    rcases List.mem_append.mp hx with hx | hx
    · exact h.2.2 x hx
    · exact ⟨tok, htok, hk, (List.mem_singleton.mp hx).symm⟩
  | closeList _ _ hst hcna =>
    have hf := C.value _ _ _ _ _ _ (h.top hst).head (.inr ⟨rfl, _, rfl, h.2.2⟩) hcna
    exact ⟨(h.top hst).retop hf rfl rfl, h.2⟩
  | value _ hkt _ hst hcna =>
    have hf := C.value _ _ _ _ _ _ (h.top hst).head (offered_of_valueType htok (hk ▸ hkt)) hcna
    exact ⟨(h.top hst).retop hf rfl rfl, h.2⟩
  | test _ hst hd hkind hcna =>
    obtain ⟨hdT, hn⟩ := named rfl hd
    obtain ⟨h1, h2, h3⟩ := C.pushTest _ hdT hn _ _ _ _ (h.top hst).head hkind hcna
    exact ⟨⟨h2, h3, (h.top hst).retop h1 rfl rfl⟩, h.2⟩
  | openList _ => exact ⟨h.1, h.2.1, nofun⟩
  | reassign _ _ hst _ hre =>
    have hf := C.reassign _ _ (h.top hst).head hre
    obtain ⟨_, a, _, _, rfl⟩ := reassign_some hre
    exact ⟨(h.top hst).retop hf rfl rfl, h.2⟩
  -- the other seven constructors change neither `stack`, `result` nor `curlist`
  | _ => exact h

theorem stepEff_P {s s' : PState} {tok : Tok} {rew : Bool} (h : SP TokP FP R BP ResP s) (htok : TokP tok)
    (he : StepEff T s tok s' rew) : SP TokP FP R BP ResP s' := by
  cases he with
  | hash => exact h
  | skip => exact h
  | tok _ _ _ he =>
    obtain ⟨hp, hc⟩ := he
    exact run_P C hc (direct_P C hp (h.fields rfl rfl rfl) htok rfl rfl)

theorem feed_P (toks : List Tok) (htoks : ∀ tok ∈ toks, TokP tok) (s : PState) (n : Nat) (h : SP TokP FP R BP ResP s)
    (s' : PState) (m : Nat) (hf : feed T toks s n = .done s' m) : SP TokP FP R BP ResP s' :=
  feed_induction (fun tok ht _ _ _ hs he => stepEff_P C hs (htoks tok ht) he) h hf

theorem accepted_result (text : Bytes) (prev : PState) (r : List Node)
    (htoks : ∀ lr, Lex.lex text = some lr → ∀ tok ∈ lr.toks, TokP tok)
    (h : parse T text prev = .accept r) : ResP r := by
  obtain ⟨lr, s, m, hl, _, hf, _, _, rfl⟩ := parse_accept_iff.mp h
  exact (feed_P C lr.toks (htoks lr hl) {} 0 ⟨trivial, C.nil, nofun⟩ s m hf).2.1

end TokThread
