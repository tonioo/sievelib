import SieveModel.Lemmas.SerLemmas
import SieveModel.Lemmas.Safe
import SieveModel.Lemmas.Threading
/-!
# Every tree the parser builds can be printed (`tosieve` does not raise)

`FrameP T f`: the node a stack frame would become is printable.  Kept by every parser step for tables
satisfying the decidable condition `TableP`.
-/
namespace Printable
open Machine Args ArgsSafe

def NodeP (T : Table) (n : Node) : Prop := ∀ i, Ser.node T i n ≠ none
def ArgP (T : Table) (d : CmdDef) (e : Bool) (a : Arg) : Prop := ∀ i, Ser.renderArg T i d e a ≠ none

/-- per-slot condition: the slot is found under its own name; a slot that takes string lists is neither a
    tag slot nor a test-list slot -/
def slotP (d : CmdDef) (a : ArgDef) : Bool :=
  (Ser.slotOf d a.name == some a) &&
  (!decide (ArgType.stringlist ∈ a.types) || (!decide (ArgType.tag ∈ a.types) && a.types != [.testlist]))

def flagSlotP (d : CmdDef) : Bool :=
  (match Ser.slotOf d "variable-list" with
   | some s => s.types != [.testlist]
   | none => false) &&
  (match Ser.slotOf d "list-of-flags" with
   | some s => !decide (ArgType.tag ∈ s.types) && s.types != [.testlist]
   | none => true)

def defP (T : Table) (d : CmdDef) : Bool :=
  (T.byName d.name == some d) && d.args.all (slotP d) && (d.special != .hasflag || flagSlotP d)

def TableP (T : Table) : Prop := ∀ d ∈ T, defP T d = true
instance (T : Table) : Decidable (TableP T) := by unfold TableP; infer_instance

structure FrameP (T : Table) (f : Frame) : Prop where
  dfn : defP T f.d = true
  cur : ∀ c, f.st.curarg = some c → c ∈ f.d.args
  args : ∀ a ∈ f.st.arguments, ArgP T f.d false a
  extra : ∀ a ∈ f.st.extraArgs, ArgP T f.d true a
  kids : ∀ n ∈ f.children, NodeP T n

theorem defP_byName {T : Table} {d : CmdDef} (h : defP T d = true) : T.byName d.name = some d := by
  simp only [defP, Bool.and_eq_true, beq_iff_eq] at h; exact h.1.1

theorem defP_slot {T : Table} {d : CmdDef} (h : defP T d = true) (a : ArgDef) (ha : a ∈ d.args) :
    Ser.slotOf d a.name = some a ∧
    (ArgType.stringlist ∈ a.types → ArgType.tag ∉ a.types ∧ a.types ≠ [.testlist]) := by
  simp only [defP, Bool.and_eq_true, List.all_eq_true] at h
  have := h.1.2 a ha
  simp only [slotP, Bool.and_eq_true, beq_iff_eq, Bool.or_eq_true, Bool.not_eq_true', decide_eq_false_iff_not,
    bne_iff_ne, ne_eq] at this
  exact ⟨this.1, fun hs => this.2.resolve_left (· hs)⟩

/-- the two slots `reassign_arguments` moves a value between: the first exists and does not take test lists, the second
    (if it exists) takes string lists as a plain argument -/
theorem defP_flags {T : Table} {d : CmdDef} (h : defP T d = true) (hsp : d.special = .hasflag) :
    (∃ s, Ser.slotOf d "variable-list" = some s ∧ s.types ≠ [.testlist]) ∧
    ∀ s, Ser.slotOf d "list-of-flags" = some s → ArgType.tag ∉ s.types ∧ s.types ≠ [.testlist] := by
  simp only [defP, hsp, bne_self_eq_false, Bool.false_or, flagSlotP, Bool.and_eq_true] at h
  obtain ⟨_, h1, h2⟩ := h
  constructor
  · cases hs : Ser.slotOf d "variable-list" with
    | none => rw [hs] at h1; cases h1
    | some s => rw [hs] at h1; exact ⟨s, rfl, by simpa using h1⟩
  · intro s hs; rw [hs] at h2; simpa using h2

theorem argP_str {T : Table} {d : CmdDef} {e : Bool} {k : String} {v : Bytes} :
    ArgP T d e (.str k v) ↔ (e = true → ∀ slot, Ser.slotOf d k = some slot → slot.extra ≠ none) := by
  unfold ArgP
  simp only [Ser.renderArg]
  cases Ser.slotOf d k with
  | none => simp
  | some slot =>
    cases e
    · simp only [Bool.false_eq_true, if_false]; split <;> simp
    · cases he : slot.extra <;> simp [he]

theorem argP_strs {T : Table} {d : CmdDef} {e : Bool} {k : String} {l : List Bytes} :
    ArgP T d e (.strs k l) ↔
      (e = false → ∀ slot, Ser.slotOf d k = some slot → ArgType.tag ∉ slot.types ∧ slot.types ≠ [.testlist]) := by
  unfold ArgP
  simp only [Ser.renderArg]
  cases Ser.slotOf d k with
  | none => simp
  | some slot => cases e <;> simp

theorem argP_test {T : Table} {d : CmdDef} {e : Bool} {k : String} {n : Node} : ArgP T d e (.test k n) ↔ NodeP T n := by
  unfold ArgP NodeP
  simp only [Ser.renderArg]
  refine forall_congr' fun i => ?_
  cases Ser.node T i n <;> simp

theorem argP_tests {T : Table} {d : CmdDef} {e : Bool} {k : String} {ts : List Node} :
    ArgP T d e (.tests k ts) ↔
      ∀ slot, Ser.slotOf d k = some slot → slot.types = [.testlist] ∧ ∀ m ∈ ts, Ser.node T 0 m ≠ none := by
  unfold ArgP
  simp only [Ser.renderArg, ← Ser.testsOut_ne_none]
  cases Ser.slotOf d k with
  | none => simp
  | some slot =>
    by_cases ht : slot.types = [.testlist]
    · cases Ser.testsOut T ts <;> simp [ht]
    · simp [ht]

theorem argP_value {T : Table} {d : CmdDef} (hd : defP T d = true) (a : ArgDef) (ha : a ∈ d.args)
    (v : AVal) (hstr : ∀ l, v = .strs l → ArgType.stringlist ∈ a.types) (hn : ∀ n, v = .test n → NodeP T n) :
    ArgP T d false (v.toArg a.name) := by
  obtain ⟨hslot, hsl⟩ := defP_slot hd a ha
  cases v with
  | str raw => exact argP_str.mpr nofun
  | strs l => exact argP_strs.mpr fun _ s hs => Option.some.inj (hslot.symm.trans hs) ▸ hsl (hstr l rfl)
  | test n => exact argP_test.mpr (hn n rfl)

theorem argP_extra {T : Table} {d : CmdDef} (hd : defP T d = true) (c : ArgDef) (hc : c ∈ d.args) (e : ExtraDef)
    (hce : c.extra = some e) (v : AVal) (hn : ∀ n, v = .test n → NodeP T n) : ArgP T d true (v.toArg c.name) := by
  cases v with
  | str raw =>
    refine argP_str.mpr fun _ s hs => ?_
    cases (defP_slot hd c hc).1.symm.trans hs
    rw [hce]; nofun
  | strs l => exact argP_strs.mpr nofun
  | test n => exact argP_test.mpr (hn n rfl)

/-- a printable value may move from a slot that does not take test lists to one that takes string lists as plain arguments -/
theorem argP_rekey {T : Table} {d : CmdDef} {a : Arg} {k : String}
    (hsrc : ∃ s, Ser.slotOf d a.key = some s ∧ s.types ≠ [.testlist])
    (hdst : ∀ s, Ser.slotOf d k = some s → ArgType.tag ∉ s.types ∧ s.types ≠ [.testlist])
    (h : ArgP T d false a) : ArgP T d false (a.rekey k) := by
  cases a with
  | str _ v => exact argP_str.mpr nofun
  | strs _ l => exact argP_strs.mpr fun _ => hdst
  | test _ n => exact argP_test.mpr (argP_test.mp h)
  | tests _ l => obtain ⟨s, hs, hne⟩ := hsrc; exact absurd (argP_tests.mp h s hs).1 hne

theorem FrameP.node {T : Table} {f : Frame} (h : FrameP T f) (c : List Bytes) : NodeP T (Frame.toNode f c) :=
  fun i => Ser.node_ne_none (defP_byName h.dfn) (fun a ha => h.args a ha i) (fun a ha => h.extra a ha i)
    (fun n hn => h.kids n hn (i + 4))

theorem FrameP.fresh {T : Table} (d : CmdDef) (hd : defP T d = true) (a : Attach) : FrameP T { d := d, attach := a } :=
  ⟨hd, fun _ h => (by cases h), List.forall_mem_nil _, List.forall_mem_nil _, List.forall_mem_nil _⟩

theorem checkNextArg_P {T : Table} (f : Frame) (ld : List Bytes) (t : ArgType) (v : AVal) (add ce : Bool) (st' : CState)
    (pl : Placement) (hf : FrameP T f) (hc : Consistent t v) (hn : ∀ n, v = .test n → NodeP T n)
    (h : checkNextArg f.d ld f.st t v add ce = .ok (some (st', pl))) : FrameP T { f with st := st' } := by
  obtain ⟨h1, h2, h3⟩ := Safe.checkNextArg_stored h
  refine ⟨hf.dfn, fun c hc => (h3 c hc).elim (hf.cur c) id, fun x hx => ?_, fun x hx => ?_, hf.kids⟩
  · cases h1 x hx with
    | old h => exact hf.args x h
    | @slot a ha hvt _ =>
      refine argP_value hf.dfn a ha v (fun l hl => ?_) hn
      subst hl
      cases consistent_strs_type t l hc
      simpa [validType] using hvt
    | @appended a n ts ha ht hvn hts =>
      -- the list the test was appended to: the slot is `a` itself, and every other element was printable before
      refine argP_tests.mpr fun s hs => ?_
      cases (defP_slot hf.dfn a ha).1.symm.trans hs
      refine ⟨ht, fun m hm => ?_⟩
      rcases hts m hm with rfl | ⟨ts', hmem, hm'⟩
      · exact hn m hvn 0
      · exact (argP_tests.mp (hf.args _ hmem) a hs).2 m hm'
  · cases h2 x hx with
    | old h => exact hf.extra x h
    | @param c e hcur hce _ => exact argP_extra hf.dfn c (hf.cur c hcur) e hce v hn

theorem plug_P {T : Table} (p : Frame) (a : Attach) (n : Node) (hp : FrameP T p) (hn : NodeP T n) :
    FrameP T (plug p a n) := by
  rcases plug_cases p a n with e | ⟨_, e⟩ | ⟨k, _, e⟩ | ⟨k, _, e⟩ | ⟨k, ts, _, hin, e⟩ <;> rw [e]
  · exact hp
  · exact { hp with kids := List.forall_mem_snoc hp.kids hn }
  · exact { hp with args := forall_mem_assocSet hp.args (argP_test.mpr hn) }
  · exact { hp with extra := forall_mem_assocSet hp.extra (argP_test.mpr hn) }
  · refine { hp with args := forall_mem_assocSet hp.args (argP_tests.mpr fun s hs => ?_) }
    obtain ⟨ht, hts⟩ := argP_tests.mp (hp.args _ hin) s hs
    exact ⟨ht, forall_mem_replaceLast hts (hn 0)⟩

theorem reassign_P {T : Table} (f f' : Frame) (hf : FrameP T f) (h : reassign f = some f') : FrameP T f' := by
  obtain ⟨hsp, a, hget, _, rfl⟩ := reassign_some h
  obtain ⟨hin, hk⟩ := assocGet_some hget
  obtain ⟨hsrc, hdst⟩ := defP_flags hf.dfn hsp
  exact { hf with args := List.forall_mem_snoc (forall_mem_assocErase _ hf.args) (argP_rekey (hk ▸ hsrc) hdst (hf.args a hin)) }

theorem closed {T : Table} (hT : TableP T) : Threading.Closed T (FrameP T) (NodeP T) where
  fresh := fun d hd a => FrameP.fresh d (hT d hd) a
  node := fun _ c hf => hf.node c
  cna := checkNextArg_P
  plug := plug_P
  reassign := reassign_P

/-- **every accepted script can be printed**: `tosieve` of the result never raises -/
theorem accepted_is_printable {T : Table} (hT : TableP T) (text : Bytes) (prev : PState) (r : List Node)
    (h : parse T text prev = .accept r) : Ser.script T r ≠ none := by
  have := Threading.accepted_nodes (closed hT) text prev r h
  unfold Ser.script
  exact (Ser.nodes_ne_none T 0 _).mpr (fun n hn => this n hn 0)

end Printable
