import SieveModel.Model.Args
import SieveModel.Lemmas.Assoc
/-!
# What `check_next_arg` did

`scan_spec` reads the slot loop once, as a relation (`Scanned`): optional slots are passed over until one takes the
value (`ScanHit`: under which conditions, the new state written out) or fails (`SlotErr`: which leaf failed).
`scan_ok` / `checkNextArg_ok` and `scan_error` / `checkNextArg_error` are its two readings.  A fact about an
accepted argument is a case split over `Took` / `ScanHit`; crash-freedom (`Lemmas/ArgsSafe.lean`) is one over `SlotErr`.
Before them, what the leaves of the loop answer (`validValue`, `extraAccepts`, `appendTest`, `takeOptional`).
-/
namespace Args

theorem requiredCount_cons (d : ArgDef) (rest : List ArgDef) :
    requiredCount (d :: rest) = (if d.required then 1 else 0) + requiredCount rest := by
  unfold requiredCount
  by_cases h : d.required = true <;> simp [h] <;> omega

theorem requiredCount_append (a b : List ArgDef) : requiredCount (a ++ b) = requiredCount a + requiredCount b := by
  unfold requiredCount; simp [List.filter_append]

theorem extMissing_false {ext : Option Bytes} {ld : List Bytes} :
    extMissing ext ld = false ↔ ∀ e, ext = some e → e ∈ ld := by
  cases ext with
  | none => exact ⟨fun _ _ h => (by cases h), fun _ => rfl⟩
  | some x => simp [extMissing]

/-- `__is_valid_value_for_arg` says yes when the slot has no value set, or to a text that (in lower case) is among the
    slot's values or names one of its extension values, whose extension is loaded if that is checked -/
theorem validValue_true {a : ArgDef} {v : AVal} {ld : List Bytes} {ce : Bool} (h : validValue a v ld ce = .ok true) :
    (a.values.isNone = true ∧ a.extValues.isEmpty = true) ∨ ∃ raw, v = .str raw ∧
      (inValues a.values (B.lower raw) = true ∨
        ∃ ext, extLookup a.extValues (B.lower raw) = some ext ∧ (ce = true → ext ∈ ld)) := by
  revert h
  fun_cases validValue a v ld ce with
  | case1 v h0 => exact fun _ => .inl (Bool.and_eq_true_iff.mp h0)
  | case2 h0 r h1 => exact fun _ => .inr ⟨r, rfl, .inl h1⟩
  | case4 h0 r h1 e he hld => exact fun _ => .inr ⟨r, rfl, .inr ⟨e, he, fun hce => by simpa [hce] using hld⟩⟩
  | case3 | case5 | case6 => nofun

theorem extraAccepts_true {e : ExtraDef} {t : ArgType} {v : AVal} (h : extraAccepts e t v = true) :
    atypeIn t e = true ∧ (e.values = none ∨ ∃ raw vs, v = .str raw ∧ e.values = some vs ∧ raw ∈ vs) := by
  simp only [extraAccepts, Bool.and_eq_true] at h
  refine ⟨h.1, ?_⟩
  cases hv : e.values with
  | none => exact .inl rfl
  | some vs =>
    rw [hv] at h
    cases v with
    | str raw => exact .inr ⟨raw, vs, rfl, rfl, of_decide_eq_true h.2⟩
    | _ => cases h.2

theorem pendingExtra_some {st : CState} {c : ArgDef} {e : ExtraDef} (h : pendingExtra st = some (c, e)) :
    st.curarg = some c ∧ c.extra = some e := by
  revert h
  fun_cases pendingExtra st with
  | case1 | case2 => nofun
  | case3 c' hc e' he => rintro ⟨⟩; exact ⟨hc, he⟩

theorem appendTest_ok {l l' : List Arg} {k : String} {v : AVal} (h : appendTest l k v = .ok l') :
    ∃ n, v = .test n ∧
      ((∃ k' ts, assocGet l k = some (.tests k' ts) ∧ l' = assocSet l (.tests k (ts ++ [n]))) ∨
       (assocGet l k = none ∧ l' = l ++ [.tests k [n]])) := by
  revert h
  fun_cases appendTest l k v with
  | case1 n k' ts hg => rintro ⟨⟩; exact ⟨n, rfl, .inl ⟨k', ts, hg, rfl⟩⟩
  | case2 | case4 => nofun
  | case3 n hg => rintro ⟨⟩; exact ⟨n, rfl, .inr ⟨hg, rfl⟩⟩

theorem takeOptional_ok {ld : List Bytes} {ce add : Bool} {v : AVal} {st st' : CState} {d : ArgDef} {pl : Placement}
    (h : takeOptional ld ce add v st d = .ok (st', pl)) :
    (ce = true → extMissing d.extension ld = false) ∧ ∃ w, wantsExtra d v = .ok w ∧
      st' = { st with curarg := if w then some d else st.curarg, arguments := setArg add st.arguments (v.toArg d.name) } ∧
      pl = if add then .arg d.name else .nowhere := by
  revert h
  fun_cases takeOptional ld ce add v st d with
  | case1 | case2 => nofun
  | case3 hext w hw => rintro ⟨⟩; exact ⟨fun hce => by subst hce; simpa using hext, w, hw, rfl, rfl⟩

/-- the slot `a` at position `pos` took the value -/
inductive ScanHit (ld : List Bytes) (ce add : Bool) (t : ArgType) (v : AVal) (st : CState) (pos : Nat)
    (a : ArgDef) : CState → Placement → Prop
  | testlistAdd {args} : a.required = true → a.types = [.testlist] → t = .test → add = true →
      appendTest st.arguments a.name v = .ok args →
      ScanHit ld ce add t v st pos a { st with arguments := args } (.elem a.name)
  | testlistSkip : a.required = true → a.types = [.testlist] → t = .test → add = false →
      ScanHit ld ce add t v st pos a st .nowhere
  | required : a.required = true → a.types ≠ [.testlist] → validType t a.types = true →
      validValue a v ld ce = .ok true →
      ScanHit ld ce add t v st pos a
        { st with curarg := some a, rargsCnt := st.rargsCnt + 1, nextargpos := pos + 1,
                  arguments := setArg add st.arguments (v.toArg a.name) }
        (if add then .arg a.name else .nowhere)
  | optional {w} : a.required = false → t ∈ a.types → validValue a v ld ce = .ok true →
      (ArgType.tag ∈ a.types ∨ assocHas st.arguments a.name = false) →
      (ce = true → extMissing a.extension ld = false) → wantsExtra a v = .ok w →
      ScanHit ld ce add t v st pos a
        { st with curarg := if w then some a else st.curarg, arguments := setArg add st.arguments (v.toArg a.name) }
        (if add then .arg a.name else .nowhere)

/-- the slot `a` stopped the scan with the error `e` -/
inductive SlotErr (cmd : Bytes) (ld : List Bytes) (ce : Bool) (t : ArgType) (v : AVal) (st : CState) (a : ArgDef) :
    CmdErr → Prop
  /-- a required slot answers with `badArgument` whenever it does not take the value (which branch refused is not kept) -/
  | mismatch : a.required = true → SlotErr cmd ld ce t v st a (.badArgument cmd)
  | append {e} : a.types = [.testlist] → t = .test → appendTest st.arguments a.name v = .error e →
      SlotErr cmd ld ce t v st a e
  | value {e} : validType t a.types = true ∨ t ∈ a.types → validValue a v ld ce = .error e → SlotErr cmd ld ce t v st a e
  | extension : a.required = false → SlotErr cmd ld ce t v st a (.extNotLoaded (a.extension.getD []))
  | extra {e} : a.required = false → t ∈ a.types → wantsExtra a v = .error e → SlotErr cmd ld ce t v st a e

/-- the slot loop as a relation: optional slots are passed over until one takes the value or fails -/
inductive Scanned (cmd : Bytes) (ld : List Bytes) (ce add : Bool) (t : ArgType) (v : AVal) (st : CState) :
    List ArgDef → Nat → Except CmdErr (CState × Placement) → Prop
  | nil {pos} : Scanned cmd ld ce add t v st [] pos (.ok (st, .nowhere))
  | pass {d rest pos r} : d.required = false → Scanned cmd ld ce add t v st rest (pos + 1) r →
      Scanned cmd ld ce add t v st (d :: rest) pos r
  | hit {d rest pos st' pl} : ScanHit ld ce add t v st pos d st' pl →
      Scanned cmd ld ce add t v st (d :: rest) pos (.ok (st', pl))
  | err {d rest pos e} : SlotErr cmd ld ce t v st d e → Scanned cmd ld ce add t v st (d :: rest) pos (.error e)

theorem scan_spec (cmd : Bytes) (ld : List Bytes) (ce add : Bool) (t : ArgType) (v : AVal) (st : CState)
    (defs : List ArgDef) (pos : Nat) : Scanned cmd ld ce add t v st defs pos (scan cmd ld ce add t v st defs pos) := by
  -- in the order of `scan`'s branches: the end of the list (1); a required test-list slot (2–5); any other required
  -- slot (6–9); an optional slot that lists the type (10–12: it fails, takes the value, is passed over) or not (13)
  fun_induction scan cmd ld ce add t v st defs pos with
  | case1 => exact .nil
  | case2 d rest pos hreq => exact .err (.mismatch hreq)
  | case3 d rest pos hreq htl htest hadd e happ => exact .err (.append (eq_of_beq htl) (by simpa using htest) happ)
  | case4 d rest pos hreq htl htest hadd args happ =>
    exact .hit (.testlistAdd hreq (eq_of_beq htl) (by simpa using htest) hadd happ)
  | case5 d rest pos hreq htl htest hadd =>
    exact .hit (.testlistSkip hreq (eq_of_beq htl) (by simpa using htest) (Bool.eq_false_iff.mpr hadd))
  | case6 d rest pos hreq => exact .err (.mismatch hreq)
  | case7 d rest pos hreq htl hvt e hvv => exact .err (.value (.inl (by simpa using hvt)) hvv)
  | case8 d rest pos hreq => exact .err (.mismatch hreq)
  | case9 d rest pos hreq htl hvt hvv =>
    exact .hit (.required hreq (fun h => htl (by rw [h]; rfl)) (by simpa using hvt) hvv)
  | case10 d rest pos hreq hin e hvv => exact .err (.value (.inr (of_decide_eq_true hin)) hvv)
  | case11 d rest pos hreq hin w hvv hc =>
    simp only [Bool.and_eq_true, Bool.or_eq_true, decide_eq_true_eq, Bool.not_eq_true'] at hc
    obtain ⟨rfl, hfree⟩ := hc
    have hopt := Bool.eq_false_iff.mpr hreq
    fun_cases takeOptional ld ce add v st d with
    | case1 => exact .err (.extension hopt)
    | case2 _ e hw => exact .err (.extra hopt (of_decide_eq_true hin) hw)
    | case3 hm w hw =>
      exact .hit (.optional hopt (of_decide_eq_true hin) hvv hfree (fun hce => by subst hce; simpa using hm) hw)
  | case12 d rest pos hreq _ _ _ _ ih => exact .pass (Bool.eq_false_iff.mpr hreq) ih
  | case13 d rest pos hreq _ ih => exact .pass (Bool.eq_false_iff.mpr hreq) ih

/-- the scan stops at the first required slot, or at an optional one that matches; what it skipped is optional -/
theorem scan_ok {cmd : Bytes} {ld : List Bytes} {ce add : Bool} {t : ArgType} {v : AVal} {st st' : CState}
    {pl : Placement} {defs : List ArgDef} {pos : Nat} (h : scan cmd ld ce add t v st defs pos = .ok (st', pl)) :
    (st' = st ∧ pl = .nowhere ∧ requiredCount defs = 0) ∨
    ∃ pre a post, defs = pre ++ a :: post ∧ requiredCount pre = 0 ∧
      ScanHit ld ce add t v st (pos + pre.length) a st' pl := by
  have hs := scan_spec cmd ld ce add t v st defs pos
  generalize scan cmd ld ce add t v st defs pos = r at h hs
  induction hs with
  | nil => cases h; exact .inl ⟨rfl, rfl, rfl⟩
  | @pass d _ pos _ hopt _ ih =>
    rcases ih h with ⟨h1, h2, h3⟩ | ⟨pre, a, post, hd, hp, hit⟩
    · exact .inl ⟨h1, h2, by rw [requiredCount_cons, hopt, h3]; rfl⟩
    · refine .inr ⟨d :: pre, a, post, by rw [hd]; rfl, by rw [requiredCount_cons, hopt, hp]; rfl, ?_⟩
      rwa [List.length_cons, ← Nat.add_assoc, Nat.add_right_comm]
  | hit hit => cases h; exact .inr ⟨[], _, _, rfl, rfl, hit⟩
  | err => cases h

theorem scan_error {cmd : Bytes} {ld : List Bytes} {ce add : Bool} {t : ArgType} {v : AVal} {st : CState} {e : CmdErr}
    {defs : List ArgDef} {pos : Nat} (h : scan cmd ld ce add t v st defs pos = .error e) :
    ∃ a ∈ defs, SlotErr cmd ld ce t v st a e := by
  have hs := scan_spec cmd ld ce add t v st defs pos
  generalize scan cmd ld ce add t v st defs pos = r at h hs
  induction hs with
  | nil => cases h
  | pass _ _ ih => obtain ⟨a, ha, herr⟩ := ih h; exact ⟨a, List.mem_cons_of_mem _ ha, herr⟩
  | hit => cases h
  | err herr => cases h; exact ⟨_, List.mem_cons_self, herr⟩

/-- what a successful `check_next_arg` did -/
inductive Took (d : CmdDef) (ld : List Bytes) (ce add : Bool) (t : ArgType) (v : AVal) (st : CState) :
    CState → Placement → Prop
  /-- the pending tag took it as its parameter -/
  | extra {c e} : st.curarg = some c → c.extra = some e → extraAccepts e t v = true →
      Took d ld ce add t v st { st with extraArgs := setArg add st.extraArgs (v.toArg c.name), curarg := none }
        (if add then .extra c.name else .nowhere)
  /-- no slot matched and none was required -/
  | nothing : pendingExtra st = none → requiredCount (d.args.drop st.nextargpos) = 0 → Took d ld ce add t v st st .nowhere
  | slot {pre a post st' pl} : pendingExtra st = none → d.args.drop st.nextargpos = pre ++ a :: post →
      requiredCount pre = 0 → ScanHit ld ce add t v st (st.nextargpos + pre.length) a st' pl →
      Took d ld ce add t v st st' pl

theorem checkNextArg_ok {d : CmdDef} {ld : List Bytes} {st st' : CState} {t : ArgType} {v : AVal} {add ce : Bool}
    {pl : Placement} (h : checkNextArg d ld st t v add ce = .ok (some (st', pl))) :
    isComplete d.variableArgs d.args st (some (t, v)) = false ∧ Took d ld ce add t v st st' pl := by
  revert h
  fun_cases checkNextArg d ld st t v add ce with
  | case1 | case2 | case4 | case5 => nofun
  | case3 _ hnc c e hp hacc =>
    obtain ⟨h1, h2⟩ := pendingExtra_some hp
    rintro ⟨⟩; exact ⟨Bool.eq_false_iff.mpr hnc, .extra h1 h2 hacc⟩
  | case6 _ hnc hp r hs =>
    rintro ⟨⟩
    refine ⟨Bool.eq_false_iff.mpr hnc, ?_⟩
    rcases scan_ok hs with ⟨rfl, rfl, h0⟩ | ⟨pre, a, post, hd, hpre, hit⟩
    · exact .nothing hp h0
    · exact .slot hp hd hpre hit

theorem checkNextArg_error {d : CmdDef} {ld : List Bytes} {st : CState} {t : ArgType} {v : AVal} {add ce : Bool}
    {e : CmdErr} (h : checkNextArg d ld st t v add ce = .error e) :
    (∃ c x, pendingExtra st = some (c, x) ∧ e = .badValue c.name) ∨
    ∃ a ∈ d.args.drop st.nextargpos, SlotErr d.name ld ce t v st a e := by
  revert h
  fun_cases checkNextArg d ld st t v add ce with
  | case1 | case2 | case3 | case6 => nofun
  | case4 _ _ c x hp => rintro ⟨⟩; exact .inl ⟨c, x, hp, rfl⟩
  | case5 _ _ _ e' hs => rintro ⟨⟩; exact .inr (scan_error hs)

theorem dry_same (d : CmdDef) (ld : List Bytes) (st : CState) (v : AVal) (st' : CState) (pl : Placement)
    (hcna : checkNextArg d ld st .test v false true = .ok (some (st', pl))) :
    st'.arguments = st.arguments ∧ st'.extraArgs = st.extraArgs := by
  cases (checkNextArg_ok hcna).2 with
  | extra => exact ⟨rfl, rfl⟩
  | nothing => exact ⟨rfl, rfl⟩
  | slot _ _ _ hit =>
    cases hit with
    | testlistAdd _ _ _ hadd => cases hadd
    | _ => exact ⟨rfl, rfl⟩

/-- with `add` off nothing is stored, so it does not matter which test is offered -/
theorem scan_dry (cmd : Bytes) (ld : List Bytes) (ce : Bool) (n n' : Node) (st : CState) (defs : List ArgDef) (pos : Nat) :
    scan cmd ld ce false .test (.test n) st defs pos = scan cmd ld ce false .test (.test n') st defs pos := by
  induction defs generalizing pos with
  | nil => rfl
  | cons d rest ih => simp [scan, validValue, takeRequired, takeOptional, wantsExtra, valLowerIn, setArg, ih]

theorem checkNextArg_dry (d : CmdDef) (ld : List Bytes) (st : CState) (ce : Bool) (n n' : Node) :
    checkNextArg d ld st .test (.test n) false ce = checkNextArg d ld st .test (.test n') false ce := by
  have h1 : pendingOk st (some (.test, .test n)) = pendingOk st (some (.test, .test n')) := by
    unfold pendingOk
    split
    · rfl
    · split
      · rfl
      · rename_i e _; cases e.validFor <;> rfl
  have h2 : ∀ e, extraAccepts e .test (.test n) = extraAccepts e .test (.test n') := fun e => by
    unfold extraAccepts; cases e.values <;> rfl
  simp only [checkNextArg, isComplete, h1, h2, setArg, scan_dry _ _ _ n n', Bool.false_eq_true, if_false]

theorem mem_setArg {add : Bool} {l : List Arg} {a x : Arg} (h : x ∈ setArg add l a) : x ∈ l ∨ x = a := by
  unfold setArg at h
  split at h
  · exact mem_assocSet h
  · exact .inl h

@[simp] theorem toArg_key (v : AVal) (k : String) : (v.toArg k).key = k := by
  cases v <;> simp [AVal.toArg, Arg.key]

theorem ScanHit.arg {ld : List Bytes} {ce add : Bool} {t : ArgType} {v : AVal} {st st' : CState} {pos : Nat}
    {a : ArgDef} {k : String} (h : ScanHit ld ce add t v st pos a st' (.arg k)) :
    a.name = k ∧ add = true ∧ st'.arguments = assocSet st.arguments (v.toArg k) ∧ st'.extraArgs = st.extraArgs ∧
      validValue a v ld ce = .ok true ∧ (a.required = false → ce = true → extMissing a.extension ld = false) := by
  generalize hpl : Placement.arg k = pl at h
  cases h with
  | testlistAdd => cases hpl
  | testlistSkip => cases hpl
  | required hr _ _ hv => cases add <;> cases hpl; exact ⟨rfl, rfl, rfl, rfl, hv, fun h => (by rw [hr] at h; cases h)⟩
  | optional _ _ hv _ hext => cases add <;> cases hpl; exact ⟨rfl, rfl, rfl, rfl, hv, fun _ => hext⟩

theorem scan_records (cmd : Bytes) (loaded : List Bytes) (ce : Bool) (t : ArgType) (v : AVal)
    (st st' : CState) (defs : List ArgDef) (pos : Nat) (k : String)
    (h : scan cmd loaded ce true t v st defs pos = .ok (st', .arg k)) :
    assocGet st'.arguments k = some (v.toArg k) ∧
    (∀ k', (k == k') = false → assocGet st'.arguments k' = assocGet st.arguments k') ∧
    st'.extraArgs = st.extraArgs := by
  rcases scan_ok h with ⟨_, h2, _⟩ | ⟨_, a, _, _, _, hit⟩
  · cases h2
  · obtain ⟨_, _, hargs, hextra, _⟩ := hit.arg
    rw [hargs]
    exact ⟨by simpa using assocGet_assocSet_self st.arguments (v.toArg k),
      fun k' hk' => assocGet_assocSet_other st.arguments (v.toArg k) k' (by simpa using hk'), hextra⟩

theorem scan_nowhere (cmd : Bytes) (loaded : List Bytes) (ce : Bool) (t : ArgType) (v : AVal)
    (st st' : CState) (defs : List ArgDef) (pos : Nat)
    (h : scan cmd loaded ce true t v st defs pos = .ok (st', .nowhere)) : st' = st := by
  rcases scan_ok h with ⟨h1, _⟩ | ⟨_, a, _, _, _, hit⟩
  · exact h1
  · generalize hpl : Placement.nowhere = pl at hit
    cases hit with
    | testlistSkip => rfl
    | _ => cases hpl

end Args
