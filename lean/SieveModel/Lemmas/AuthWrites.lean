import SieveModel.Lemmas.ClientState
import SieveModel.Lemmas.Bytes
/-!
# What `connect`'s authentication step puts on the wire (T-AUTH-WIRE)

`sendCommand_writes`: one exchange writes its command line and its extra lines, in order, on the current
channel, whatever the reply.  `authenticate_writes`: `__authenticate` writes nothing when no mechanism is
selected, and otherwise exactly the lines of ONE mechanism — the selected one — once.  `starttls_spec`, `maybeTls_spec`:
what the STARTTLS step writes and leaves; `connect_spec`: `connect` as a whole.
-/
namespace Client
open Reader

theorem write_writes (c : Client) (b : Bytes) : (write c b).writes = c.writes ++ [(c.tls, b)] := rfl
theorem write_tls (c : Client) (b : Bytes) : (write c b).tls = c.tls := rfl

theorem foldl_write_writes (ls : List Bytes) (c : Client) :
    (ls.foldl (fun acc l => write acc (l ++ CRLF)) c).writes = c.writes ++ ls.map (fun l => (c.tls, l ++ CRLF)) ∧
    (ls.foldl (fun acc l => write acc (l ++ CRLF)) c).tls = c.tls := by
  induction ls generalizing c with
  | nil => simp
  | cons l rest ih =>
    obtain ⟨h1, h2⟩ := ih (write c (l ++ CRLF))
    simp only [List.foldl_cons, h1, h2, write_writes, write_tls, List.map_cons, List.append_assoc, List.singleton_append]
    exact ⟨trivial, trivial⟩

theorem awaitReply_writes (c : Client) (n : Option Nat) : (awaitReply c n).2.writes = c.writes := by
  unfold awaitReply
  cases readResponse n c.r <;> rfl

/-- **one exchange writes its command line and its extra lines, in order, and nothing else** -/
theorem sendCommand_writes (c : Client) (name : Bytes) (args : List WArg) (extra : List Bytes) (n : Option Nat)
    (hc : c.connected = true) :
    (sendCommand c name args extra n).2.writes =
      c.writes ++ ((commandBytes name args) :: extra.map (· ++ CRLF)).map (fun b => (c.tls, b)) := by
  unfold sendCommand afterWrites
  simp only [hc, Bool.not_true, Bool.false_eq_true, if_false, awaitReply_writes]
  obtain ⟨h1, _⟩ := foldl_write_writes extra (write c (commandBytes name args))
  rw [h1, write_writes, write_tls]
  simp [List.map_map, Function.comp]

/-- a guarded exchange answered by OK / NO, on an authenticated and connected client: its one command line -/
theorem guarded_exchange_writes (c : Client) (name : Bytes) (ws : List WArg) (ha : c.authenticated = true)
    (hc : c.connected = true) :
    (guarded c fun c => okOf (sendCommand c name ws)).2.writes = c.writes ++ [(c.tls, commandBytes name ws)] := by
  rw [guarded_authenticated ha, okOf_snd]
  exact sendCommand_writes c name ws [] none hc

/-- what one exchange without extra lines adds to the write log: its command line, or nothing when not connected -/
theorem sendCommand_writes_or (c : Client) (name : Bytes) (args : List WArg) (n : Option Nat) :
    (sendCommand c name args [] n).2.writes = c.writes ∨
    (sendCommand c name args [] n).2.writes = c.writes ++ [(c.tls, commandBytes name args)] := by
  cases hc : c.connected with
  | false => left; rw [sendCommand, hc]; rfl
  | true => exact .inr (sendCommand_writes c name args [] n hc)

/-- the lines a mechanism's exchange consists of, as `__authenticate` writes them -/
def authLines (mech login password authz : Bytes) : List Bytes :=
  if mech == sb "PLAIN" then
    [commandBytes (sb "AUTHENTICATE") [.str (sb "PLAIN"), .str (plainPayload login password authz)]]
  else if mech == sb "LOGIN" then
    [commandBytes (sb "AUTHENTICATE") [.str (sb "LOGIN")],
     ([34] ++ Base64.encode login ++ [34]) ++ CRLF, ([34] ++ Base64.encode password ++ [34]) ++ CRLF]
  else if mech == sb "OAUTHBEARER" then
    [commandBytes (sb "AUTHENTICATE") [.str (sb "OAUTHBEARER"), .str (oauthPayload login password)]]
  else
    [commandBytes (sb "AUTHENTICATE") [.str (sb "DIGEST-MD5")]]

theorem authWith_writes (c : Client) (mech login password authz : Bytes) (hc : c.connected = true) :
    (authWith c mech login password authz).2.writes =
      c.writes ++ (authLines mech login password authz).map (fun b => (c.tls, b)) := by
  unfold authWith authLines
  by_cases h1 : (mech == sb "PLAIN") = true
  · simp only [if_pos h1]; rw [okOf_snd, sendCommand_writes c _ _ _ _ hc]; rfl
  by_cases h2 : (mech == sb "LOGIN") = true
  · simp only [if_neg h1, if_pos h2]; rw [okOf_snd, sendCommand_writes c _ _ _ _ hc]; rfl
  by_cases h3 : (mech == sb "OAUTHBEARER") = true
  · simp only [if_neg h1, if_neg h2, if_pos h3]; rw [okOf_snd, sendCommand_writes c _ _ _ _ hc]; rfl
  simp only [if_neg h1, if_neg h2, if_neg h3]
  have h := sendCommand_writes c (sb "AUTHENTICATE") [.str (sb "DIGEST-MD5")] [] (some 1) hc
  -- from here on only `h` is known of the call's result: as a variable it can be split (the call itself does not reduce);
  -- the same step recurs below wherever a call's result is taken apart
  generalize sendCommand c (sb "AUTHENTICATE") [.str (sb "DIGEST-MD5")] [] (some 1) = x at h ⊢
  obtain ⟨_ | _, c1⟩ := x <;> exact h

/-- **`__authenticate` writes the lines of exactly one mechanism — the selected one — once; nothing when none is
    selected** -/
theorem authenticate_writes (c : Client) (login password authz : Bytes) (authmech : Option Bytes) (hc : c.connected = true) :
    (authenticate c login password authz authmech).2.writes =
      c.writes ++ (match capGet c (sb "SASL") with
        | none => []
        | some v =>
          match selectMech authmech (splitWs (v.getD [])) with
          | none => []
          | some m => (authLines m login password authz).map (fun b => (c.tls, b))) := by
  unfold authenticate
  cases capGet c (sb "SASL") with
  | none => simp
  | some v =>
    simp only
    unfold finishAuth
    cases selectMech authmech (splitWs (v.getD [])) with
    | none => simp [setErrmsg]
    | some m =>
      simp only
      have h := authWith_writes c m login password authz hc
      generalize authWith c m login password authz = x at h ⊢
      obtain ⟨_ | _ | _, c1⟩ := x <;> exact h

/-- a line that begins a command `AUTHENTICATE …` -/
def isAuthCmd (b : Bytes) : Bool := B.startsWith b (sb "AUTHENTICATE")

theorem isAuthCmd_commandBytes (args : List WArg) : isAuthCmd (commandBytes (sb "AUTHENTICATE") args) = true := by
  unfold isAuthCmd commandBytes
  split
  · exact B.startsWith_append _ _
  · rw [List.append_assoc, List.append_assoc]; exact B.startsWith_append _ _

theorem isAuthCmd_quoted (rest : Bytes) : isAuthCmd (34 :: rest) = false := by
  simp [isAuthCmd, B.startsWith, sb]

theorem authenticate_writes_ex (c : Client) (login password authz : Bytes) (authmech : Option Bytes) (hc : c.connected = true) :
    ∃ auth : List Bytes, (authenticate c login password authz authmech).2.writes = c.writes ++ auth.map (fun b => (c.tls, b)) ∧
      (auth = [] ∨ ∃ mech, auth = authLines mech login password authz) := by
  have h := authenticate_writes c login password authz authmech hc
  split at h
  · exact ⟨[], by simpa using h, .inl rfl⟩
  · split at h
    · exact ⟨[], by simpa using h, .inl rfl⟩
    · exact ⟨_, h, .inr ⟨_, rfl⟩⟩

/-- `__starttls`: never touches the two flags; writes only the STARTTLS command, on the channel it
    started on; returns True only with the TLS channel established -/
theorem starttls_spec (c : Client) (env : ConnEnv) :
    (starttls c env).2.authenticated = c.authenticated ∧ (starttls c env).2.connected = c.connected ∧
    ((starttls c env).2.writes = c.writes ∨
      (starttls c env).2.writes = c.writes ++ [(c.tls, commandBytes (sb "STARTTLS") [])]) ∧
    ((starttls c env).1 = .ok true → (starttls c env).2.tls = true ∧ env.tlsOk = true) := by
  unfold starttls
  by_cases hcap : (!capHas c (sb "STARTTLS")) = true
  · rw [if_pos hcap]; exact ⟨rfl, rfl, .inl rfl, nofun⟩
  rw [if_neg hcap]
  have k := sendCommand_keeps c (sb "STARTTLS") [] [] none
  have hw := sendCommand_writes_or c (sb "STARTTLS") [] none
  generalize sendCommand c (sb "STARTTLS") [] [] none = x at k hw ⊢
  obtain ⟨_ | rep, c1⟩ := x
  · exact ⟨k.auth, k.conn, hw, nofun⟩
  simp only
  by_cases hok : (rep.code != some .OK) = true
  · rw [if_pos hok]; exact ⟨k.auth, k.conn, hw, nofun⟩
  by_cases htls : (!env.tlsOk) = true
  · rw [if_neg hok, if_pos htls]; exact ⟨k.auth, k.conn, hw, nofun⟩
  rw [if_neg hok, if_neg htls]
  -- the handshake: the capability block is read on the wrapped socket and nothing is written
  obtain ⟨g, gw⟩ := getCapabilities_keeps (tlsWrapped c1)
  generalize getCapabilities (tlsWrapped c1) = y at g gw ⊢
  obtain ⟨_ | _, c3⟩ := y
  · exact ⟨g.auth.trans k.auth, g.conn.trans k.conn, gw ▸ hw, nofun⟩
  · exact ⟨g.auth.trans k.auth, g.conn.trans k.conn, gw ▸ hw, fun _ => ⟨g.tls, by simpa using htls⟩⟩

/-- STARTTLS when asked for: the plain channel carries at most the STARTTLS line, and after success the channel is the
    secured one exactly when TLS was asked for (or was up already) -/
theorem maybeTls_spec (c : Client) (env : ConnEnv) (useTls : Bool) :
    (maybeTls c env useTls).2.authenticated = c.authenticated ∧ (maybeTls c env useTls).2.connected = c.connected ∧
    (∃ pre, (maybeTls c env useTls).2.writes = c.writes ++ pre ∧
      (pre = [] ∨ (useTls = true ∧ pre = [(c.tls, commandBytes (sb "STARTTLS") [])]))) ∧
    ((maybeTls c env useTls).1 = .ok true →
      (maybeTls c env useTls).2.tls = (useTls || c.tls) ∧ (useTls = true → env.tlsOk = true)) := by
  unfold maybeTls
  cases useTls with
  | false => exact ⟨rfl, rfl, ⟨[], by simp, .inl rfl⟩, fun _ => ⟨rfl, nofun⟩⟩
  | true =>
    obtain ⟨h1, h2, h3, h4⟩ := starttls_spec c env
    refine ⟨h1, h2, ?_, fun h => ⟨(h4 h).1, fun _ => (h4 h).2⟩⟩
    rcases h3 with h3 | h3
    · exact ⟨[], by simpa using h3, .inl rfl⟩
    · exact ⟨_, h3, .inr ⟨rfl, rfl⟩⟩

/-- what `connect` guarantees of its result `r`.  `writes` is **everything it writes**: at most one STARTTLS line in
    plaintext (only when TLS was asked for), then nothing or the lines of ONE mechanism's exchange — and those on the secured
    channel whenever TLS was asked for -/
structure ConnectSpec (env : ConnEnv) (l p z : Bytes) (useTls : Bool) (r : Res Bool) : Prop where
  /-- the client is marked authenticated only when connect returned True -/
  authenticated : r.2.authenticated = true → r.1 = .ok true
  /-- True with STARTTLS requested: the TLS channel is up and the handshake succeeded -/
  tls : useTls = true → r.1 = .ok true → r.2.tls = true ∧ env.tlsOk = true
  writes : ∃ (pre : List (Bool × Bytes)) (auth : List Bytes),
    r.2.writes = pre ++ auth.map (fun b => (useTls, b)) ∧
    (pre = [] ∨ (useTls = true ∧ pre = [(false, commandBytes (sb "STARTTLS") [])])) ∧
    (auth = [] ∨ ∃ mech, auth = authLines mech l p z)

/-- one walk through the three steps of `connect`: greeting, optional STARTTLS, authentication -/
theorem connect_spec (c : Client) (env : ConnEnv) (net : Net) (l p z : Bytes) (useTls : Bool) (m : Option Bytes) :
    ConnectSpec env l p z useTls (connect c env net l p z useTls m) := by
  unfold connect
  by_cases htcp : (!env.tcpOk) = true
  · rw [if_pos htcp]; exact ⟨nofun, fun _ => nofun, [], [], rfl, .inl rfl, .inl rfl⟩
  rw [if_neg htcp]
  -- the greeting: flags as `freshConn` set them, nothing written
  obtain ⟨g, gw⟩ := getCapabilities_keeps (freshConn c net)
  generalize getCapabilities (freshConn c net) = x at g gw ⊢
  obtain ⟨v2, c2⟩ := x
  have h2a : c2.authenticated = false := g.auth
  have h2w : c2.writes = [] := gw
  have h2t : c2.tls = false := g.tls
  rcases v2 with _ | _ | _
  · exact ⟨by simp [h2a], fun _ => nofun, [], [], by simp [h2w], .inl rfl, .inl rfl⟩
  · exact ⟨by simp [h2a], fun _ => nofun, [], [], by simp [h2w], .inl rfl, .inl rfl⟩
  simp only
  -- STARTTLS, if asked for
  obtain ⟨t1, t2, ⟨pre, t3, hpre⟩, t4⟩ := maybeTls_spec c2 env useTls
  rw [h2w, List.nil_append] at t3
  rw [h2t, Bool.or_false] at t4
  rw [h2t] at hpre
  generalize maybeTls c2 env useTls = y at t1 t2 t3 t4 ⊢
  obtain ⟨v3, c3⟩ := y
  have h3a : c3.authenticated = false := t1.trans h2a
  rcases v3 with _ | _ | _
  · exact ⟨by simp [h3a], fun _ => nofun, pre, [], by simpa using t3, hpre, .inl rfl⟩
  · exact ⟨by simp [h3a], fun _ => nofun, pre, [], by simpa using t3, hpre, .inl rfl⟩
  simp only
  -- authentication, on the channel STARTTLS left
  obtain ⟨htls, htok⟩ := t4 rfl
  obtain ⟨a1, a2, _⟩ := authenticate_spec c3 l p z m
  obtain ⟨auth, aw, ha⟩ := authenticate_writes_ex c3 l p z m (t2.trans g.conn)
  refine ⟨fun h => (a1 h).resolve_left (by simp [h3a]), fun hu _ => ⟨by rw [a2, htls, hu], htok hu⟩,
    pre, auth, by rw [aw, t3, htls], hpre, ha⟩

end Client
