import SieveModel.Lemmas.Machine
import SieveModel.Lemmas.Relex
/-!
# The parser's verdict is a function of the token sequence

Positions enter the machine only through error reports: two token lists with the same kinds and texts drive it through
the same states.  Hence two texts that lex (without lexical error) to the same kinds and texts are accepted together, with
the same tree — white space, line breaks and the place of a token on its line do not matter.
-/
namespace Layout
open Machine Lex

theorem step_kt (T : Table) (s : PState) (a b : Tok) (h : kt a = kt b) : step T s a = step T s b := by
  simp only [kt, Prod.mk.injEq] at h
  unfold step
  rw [h.1, h.2]

/-- the state after one delivered token, when there is one -/
def delivered (T : Table) (s : PState) (tok : Tok) : Option PState :=
  match deliver T s tok with
  | .ok s' => some s'
  | .error _ => none

theorem delivered_kt (T : Table) (s : PState) (a b : Tok) (h : kt a = kt b) : delivered T s a = delivered T s b := by
  unfold delivered deliver
  rw [step_kt T s a b h]
  cases hs : step T s b with
  | ok s' => rfl
  | reject e rew => rfl
  | crash w => rfl
  | rewind s' =>
    simp only
    rw [step_kt T s' a b h]
    cases step T s' b <;> rfl

/-- the state after a token list, when every token was taken -/
def fedState (T : Table) (toks : List Tok) (s : PState) (n : Nat) : Option PState :=
  match feed T toks s n with
  | .done s' _ => some s'
  | .stop _ => none

theorem fedState_cons (T : Table) (a : Tok) (l : List Tok) (s : PState) (n : Nat) :
    fedState T (a :: l) s n = (delivered T s a).bind fun s' => fedState T l s' a.text.length := by
  unfold fedState delivered
  rw [feed]
  cases deliver T s a <;> rfl

theorem fedState_kt (T : Table) : ∀ (l1 l2 : List Tok) (s : PState) (n1 n2 : Nat), l1.map kt = l2.map kt →
    fedState T l1 s n1 = fedState T l2 s n2
  | [], [], s, n1, n2, _ => rfl
  | [], b :: l2, s, n1, n2, h => by cases h
  | a :: l1, [], s, n1, n2, h => by cases h
  | a :: l1, b :: l2, s, n1, n2, h => by
    simp only [List.map_cons, List.cons.injEq] at h
    rw [fedState_cons, fedState_cons, delivered_kt T s a b h.1]
    cases delivered T s b with
    | none => rfl
    | some s' => exact fedState_kt T l1 l2 s' _ _ h.2

/-- **two texts with the same tokens are accepted together, with the same tree** -/
theorem same_tokens_same_tree (T : Table) (t1 t2 : Bytes) (l1 l2 : Lex.Result) (h1 : lex t1 = some l1) (h2 : lex t2 = some l2)
    (he2 : l2.err = none) (hk : l1.toks.map kt = l2.toks.map kt) (prev1 prev2 : PState) (r : List Node)
    (h : parse T t1 prev1 = .accept r) : parse T t2 prev2 = .accept r := by
  obtain ⟨lr, s, n, hl, _, hf, hx, hst, hr⟩ := parse_accept_iff.mp h
  rw [h1] at hl; cases hl
  have hfs := fedState_kt T l1.toks l2.toks {} 0 0 hk
  rw [fedState, fedState, hf] at hfs
  cases hf2 : feed T l2.toks {} 0 with
  | stop o => rw [hf2] at hfs; cases hfs
  | done s2 n2 =>
    rw [hf2] at hfs; cases hfs
    exact parse_accept_iff.mpr ⟨l2, s, n2, h2, he2, hf2, hx, hst, hr⟩

/-- **layout does not matter**: a text that is the tokens of an accepted script woven with other white space — every token
    still followed by something that cannot continue it — is accepted with the same tree -/
theorem accepted_whatever_the_layout (T : Table) (t1 t2 : Bytes) (l1 : Lex.Result) (h1 : lex t1 = some l1)
    (hw : SWeave (l1.toks.map kt) t2) (prev1 prev2 : PState) (r : List Node) (h : parse T t1 prev1 = .accept r) :
    parse T t2 prev2 = .accept r := by
  obtain ⟨l2, h2, he2, hk⟩ := lex_of_sweave _ _ hw
  exact same_tokens_same_tree T t1 t2 l1 l2 h1 h2 he2 hk.symm prev1 prev2 r h

/-- a layout normal form: every token on a line of its own -/
def onePerLine (toks : List Tok) : Bytes := toks.flatMap (fun t => t.text ++ [10])

theorem sweave_onePerLine (toks : List Tok) (hg : ∀ t ∈ toks, GTok t) : SWeave (toks.map kt) (onePerLine toks) := by
  induction toks with
  | nil => exact .empty
  | cons t ts ih =>
    have hr := (ih (fun x hx => hg x (List.mem_cons_of_mem _ hx))).prepend [10] (by decide)
    have := SWeave.tok (hg t (List.mem_cons_self ..)) (sep_lf t.kind _) hr
    simpa [onePerLine, kt, List.flatMap_cons, List.append_assoc] using this

end Layout
