import SieveModel.Model.Machine
import SieveModel.Lemmas.Assoc
/-! Equations and inversions of the parser machine's helpers: the token loop, `require`, `reassign`, `plug`, `parse`. -/
theorem Table.lookup_mem {T : Table} {ident : Bytes} {d : CmdDef} (h : T.lookup ident = some d) : d ∈ T :=
  List.mem_of_find?_eq_some h

namespace Machine

theorem feed_append (T : Table) (a b : List Tok) (s : PState) (n : Nat) :
    feed T (a ++ b) s n =
      match feed T a s n with
      | .stop o => .stop o
      | .done s' n' => feed T b s' n' := by
  induction a generalizing s n with
  | nil => simp [feed]
  | cons tok rest ih =>
    simp only [List.cons_append, feed]
    cases h : deliver T s tok with
    | error o => simp
    | ok s' => simp [ih]

theorem feed_cons_done {T : Table} {tok : Tok} {rest : List Tok} {s s' : PState} {n m : Nat} :
    feed T (tok :: rest) s n = .done s' m ↔
      ∃ s1, deliver T s tok = .ok s1 ∧ feed T rest s1 tok.text.length = .done s' m := by
  rw [feed]
  cases deliver T s tok <;> simp

theorem feed_prefix_stop (T : Table) (a b : List Tok) (s : PState) (n : Nat) (o : Outcome)
    (h : feed T a s n = .stop o) : feed T (a ++ b) s n = .stop o := by
  rw [feed_append, h]

theorem deliver_error_cases {T : Table} {s : PState} {tok : Tok} {o : Outcome} (h : deliver T s tok = .error o) :
    o = .hang ∨ (∃ w, o = .crash w) ∨
      ∃ e, o = .reject tok.pos tok.text.length e ∨ o = .reject (tok.pos - 1) tok.text.length e := by
  revert h
  fun_cases deliver T s tok with
  | case1 | case4 => nofun
  | case2 e rew | case5 _ _ e rew =>
    intro h; cases h; exact .inr (.inr ⟨e, by cases rew; exact .inl rfl; exact .inr rfl⟩)
  | case3 w | case6 _ _ w => intro h; cases h; exact .inr (.inl ⟨w, rfl⟩)
  | case7 => intro h; cases h; exact .inl rfl

/-- every stop of the token loop is located at one of the tokens fed: the reported offset is the
    start of that token (or one byte before it, after a lexer rewind) and the reported length is
    the token's length -/
theorem feed_stop_located (T : Table) (toks : List Tok) (s : PState) (n : Nat) (o : Outcome)
    (h : feed T toks s n = .stop o) :
    o = .hang ∨ (∃ w, o = .crash w) ∨
      ∃ tok ∈ toks, ∃ e, (o = .reject tok.pos tok.text.length e ∨ o = .reject (tok.pos - 1) tok.text.length e) := by
  induction toks generalizing s n with
  | nil => cases h
  | cons tok rest ih =>
    rw [feed] at h
    cases hd : deliver T s tok with
    | error o' =>
      rw [hd] at h; cases h
      exact (deliver_error_cases hd).imp_right (·.imp_right fun h => ⟨tok, List.mem_cons_self, h⟩)
    | ok s' =>
      rw [hd] at h
      exact (ih s' _ h).imp_right (·.imp_right fun ⟨t, ht, h⟩ => ⟨t, List.mem_cons_of_mem _ ht, h⟩)

theorem followOk_some {d : CmdDef} {names : List Bytes} {prev : Option Bytes} (hm : d.mustFollow = some names)
    (h : followOk d prev = true) : ∃ p, prev = some p ∧ p ∈ names := by
  unfold followOk at h
  rw [hm] at h
  cases prev with
  | none => cases h
  | some p => exact ⟨p, rfl, of_decide_eq_true h⟩

theorem mem_addExt {ld : List Bytes} {x e : Bytes} : e ∈ addExt ld x ↔ e ∈ ld ∨ e = B.stripC 34 x := by
  unfold addExt
  by_cases h : B.stripC 34 x ∈ ld
  · rw [if_pos (decide_eq_true h)]
    exact ⟨.inl, fun h' => h'.elim id (· ▸ h)⟩
  · rw [if_neg (by simpa using h), List.mem_append, List.mem_singleton]

theorem mem_addExts {ld xs : List Bytes} {e : Bytes} : e ∈ addExts ld xs ↔ e ∈ ld ∨ e ∈ xs.map (B.stripC 34) := by
  induction xs generalizing ld with
  | nil => simp [addExts]
  | cons x rest ih =>
    rw [show addExts ld (x :: rest) = addExts (addExt ld x) rest from rfl, ih, mem_addExt, List.map_cons, List.mem_cons,
      or_assoc]

theorem assocHas_append_self (l : List Arg) (a : Arg) : assocHas (l ++ [a]) a.key = true := by
  simp [assocHas]

theorem mem_replaceLast {l : List Node} {n x : Node} (h : x ∈ replaceLast l n) : x ∈ l ∨ x = n := by
  unfold replaceLast at h
  split at h
  · exact .inr (by simpa using h)
  · rename_i y r hr
    rcases List.mem_cons.mp (List.mem_reverse.mp h) with h | h
    · exact .inr h
    · exact .inl (List.mem_reverse.mp (hr ▸ List.mem_cons_of_mem _ h))

theorem replaceLast_snoc (ts : List Node) (x n : Node) : replaceLast (ts ++ [x]) n = ts ++ [n] := by
  simp [replaceLast]

theorem forall_mem_replaceLast {P : Node → Prop} {l : List Node} {n : Node} (hl : ∀ x ∈ l, P x) (hn : P n) :
    ∀ x ∈ replaceLast l n, P x :=
  fun x hx => (mem_replaceLast hx).elim (hl x) (· ▸ hn)

/-- `reassign_arguments` succeeds only on a `hasflag` that holds `variable-list` and no `list-of-flags`: the value
    moves from the one key to the other and counts as the required argument -/
theorem reassign_some {f f' : Frame} (h : reassign f = some f') :
    f.d.special = .hasflag ∧ ∃ a, assocGet f.st.arguments "variable-list" = some a ∧
      assocHas f.st.arguments "list-of-flags" = false ∧
      f' = { f with st := { f.st with arguments := assocErase f.st.arguments "variable-list" ++ [a.rekey "list-of-flags"],
                                       rargsCnt := 1 } } := by
  unfold reassign at h
  split at h
  · rename_i hsp
    split at h
    · rename_i a ha
      split at h
      · cases h
      · rename_i hh
        cases h
        exact ⟨hsp, a, ha, by simpa using hh, rfl⟩
    · cases h
  · cases h

/-- `reassign_arguments` cannot succeed twice on the same command (the D1 repair):
    once it has moved `variable-list`, `list-of-flags` is present and it returns False -/
theorem reassign_once (f f' : Frame) (h : reassign f = some f') : reassign f' = none := by
  obtain ⟨hsp, a, _, _, rfl⟩ := reassign_some h
  have : assocHas (assocErase f.st.arguments "variable-list" ++ [a.rekey "list-of-flags"]) "list-of-flags" = true := by
    cases a <;> simp [assocHas, Arg.key, Arg.rekey]
  unfold reassign
  simp only [hsp, this, if_true]
  split <;> rfl

theorem plug_cases (p : Frame) (a : Attach) (n : Node) :
    plug p a n = p ∨
    (a = .child ∧ plug p a n = { p with children := p.children ++ [n] }) ∨
    (∃ k, a = .place (.arg k) ∧
      plug p a n = { p with st := { p.st with arguments := assocSet p.st.arguments (.test k n) } }) ∨
    (∃ k, a = .place (.extra k) ∧
      plug p a n = { p with st := { p.st with extraArgs := assocSet p.st.extraArgs (.test k n) } }) ∨
    (∃ k ts, a = .place (.elem k) ∧ .tests k ts ∈ p.st.arguments ∧
      plug p a n = { p with st := { p.st with arguments := assocSet p.st.arguments (.tests k (replaceLast ts n)) } }) := by
  unfold plug
  split
  · exact .inl rfl
  · exact .inr (.inl ⟨rfl, rfl⟩)
  · exact .inl rfl
  · exact .inr (.inr (.inl ⟨_, rfl, rfl⟩))
  · exact .inr (.inr (.inr (.inl ⟨_, rfl, rfl⟩)))
  · split
    · rename_i k' ts h
      obtain ⟨hin, hk⟩ := assocGet_some h
      cases (show k' = _ from hk)
      exact .inr (.inr (.inr (.inr ⟨_, ts, rfl, hin, rfl⟩)))
    · exact .inl rfl

theorem plug_d (p : Frame) (a : Attach) (n : Node) : (plug p a n).d = p.d := by
  rcases plug_cases p a n with e | ⟨_, e⟩ | ⟨_, _, e⟩ | ⟨_, _, e⟩ | ⟨_, _, _, _, e⟩ <;> rw [e]

theorem plug_attach (p : Frame) (a : Attach) (n : Node) : (plug p a n).attach = p.attach := by
  rcases plug_cases p a n with e | ⟨_, e⟩ | ⟨_, _, e⟩ | ⟨_, _, e⟩ | ⟨_, _, _, _, e⟩ <;> rw [e]

theorem plug_st (p : Frame) (a : Attach) (n : Node) :
    (plug p a n).st.curarg = p.st.curarg ∧ (plug p a n).st.rargsCnt = p.st.rargsCnt ∧
    (plug p a n).st.nextargpos = p.st.nextargpos := by
  rcases plug_cases p a n with e | ⟨_, e⟩ | ⟨_, _, e⟩ | ⟨_, _, e⟩ | ⟨_, _, _, _, e⟩ <;> rw [e] <;> exact ⟨rfl, rfl, rfl⟩

theorem plug_complete (p : Frame) (a : Attach) (n : Node) : Frame.complete (plug p a n) = Frame.complete p := by
  obtain ⟨h1, h2, _⟩ := plug_st p a n
  simp only [Frame.complete, Args.isComplete, Args.pendingOk, plug_d, h1, h2]

theorem parse_accept_iff {T : Table} {text : Bytes} {prev : PState} {r : List Node} :
    parse T text prev = .accept r ↔
      ∃ lr s n, Lex.lex text = some lr ∧ lr.err = none ∧ feed T lr.toks {} 0 = .done s n ∧
        endExpectation s = none ∧ s.stack = [] ∧ s.result = r := by
  unfold parse
  cases Lex.lex text with
  | none => simp
  | some lr =>
    simp only [run, finish, Option.some.injEq, exists_and_left, exists_eq_left']
    cases hf : feed T lr.toks {} 0 with
    | stop o =>
      have := feed_stop_located T lr.toks {} 0 _ hf
      constructor
      · rintro rfl; rcases this with h0 | ⟨w, h0⟩ | ⟨tok, _, e, h0 | h0⟩ <;> cases h0
      · rintro ⟨_, s, n, h, _⟩; cases h
    | done s n =>
      cases lr.err with
      | some pe => simp
      | none =>
        cases hx : endExpectation s with
        | some e => simp [hx]
        | none => cases hst : s.stack <;> simp [hx, hst]

theorem endExpectation_none {s : PState} : endExpectation s = none ↔ s.brackets = [] ∧ s.expected = none := by
  unfold endExpectation; cases s.brackets <;> simp

end Machine
