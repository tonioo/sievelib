import SieveModel.Lemmas.Safe
/-!
# The stack / bracket invariant of the push-down parser

`Chain` relates neighbouring frames of the command stack; `upLoop_spec` and `complLoop_spec` say what the two
popping loops make of a stack that satisfies it.  `Inv` adds the bracket bookkeeping.
Every token step keeps `Inv` and never raises (`Lemmas/NoCrash.lean`).
-/
namespace Safe
open Machine Args ArgsSafe

def FrameOK (f : Frame) : Prop := cmdSafe f.d = true ∧ StOK f.d f.st

/-- what a frame with another frame above it satisfies (`kind`: only tests and controls have something above them; the
    completion loop goes on past anything else, `complLoop_spec` case 8) -/
structure LowerOK (f : Frame) : Prop where
  done : f.d.variableArgs = true ∨ Frame.complete f = true
  calm : f.d.nonDet = false
  kind : f.d.kind ≠ .action

def attachOK (a : Attach) (d : CmdDef) : Prop := ∀ pl, a = .place pl → plOK d pl

def Chain : List Frame → Prop
  | [] => True
  | [f] => FrameOK f ∧ f.d.kind ≠ .test
  | g :: f :: r => FrameOK g ∧ attachOK g.attach f.d ∧ LowerOK f ∧ (g.d.kind ≠ .test → f.d.kind ≠ .test) ∧ Chain (f :: r)

theorem Chain.head {f : Frame} {r : List Frame} (h : Chain (f :: r)) : FrameOK f := by
  cases r with
  | nil => exact h.1
  | cons g r => exact h.1

theorem Chain.tail {f : Frame} {r : List Frame} (h : Chain (f :: r)) : Chain r := by
  cases r with
  | nil => trivial
  | cons g r => exact h.2.2.2.2

theorem Chain.lower {g f : Frame} {r : List Frame} (h : Chain (g :: f :: r)) : LowerOK f := h.2.2.1

theorem Chain.all {l : List Frame} (h : Chain l) : ∀ f ∈ l, FrameOK f := by
  induction l with
  | nil => exact fun _ hf => (List.not_mem_nil hf).elim
  | cons g r ih => exact List.forall_mem_cons.mpr ⟨h.head, ih h.tail⟩

/-- number of non-test frames (the command being parsed and the owners of open blocks) -/
def cmds (l : List Frame) : Nat := (l.filter (fun f => f.d.kind != .test)).length

/-- number of frames of variable-arity tests (`anyof`, `allof`) -/
def vars (l : List Frame) : Nat := (l.filter (fun f => f.d.variableArgs)).length

theorem cmds_cons (f : Frame) (l : List Frame) : cmds (f :: l) = (if f.d.kind != .test then 1 else 0) + cmds l := by
  unfold cmds; by_cases h : (f.d.kind != .test) = true <;> simp [h] <;> omega

theorem vars_cons (f : Frame) (l : List Frame) : vars (f :: l) = (if f.d.variableArgs then 1 else 0) + vars l := by
  unfold vars; by_cases h : f.d.variableArgs = true <;> simp [h] <;> omega

theorem cmds_congr {f f' : Frame} (h : f'.d = f.d) (r : List Frame) : cmds (f' :: r) = cmds (f :: r) := by
  rw [cmds_cons, cmds_cons, h]

theorem vars_congr {f f' : Frame} (h : f'.d = f.d) (r : List Frame) : vars (f' :: r) = vars (f :: r) := by
  rw [vars_cons, vars_cons, h]

theorem cmds_cons_test {f : Frame} (h : f.d.kind = .test) (l : List Frame) : cmds (f :: l) = cmds l := by
  rw [cmds_cons, h]; exact Nat.zero_add _

theorem cmds_cons_cmd {f : Frame} (h : f.d.kind ≠ .test) (l : List Frame) : cmds (f :: l) = cmds l + 1 := by
  rw [cmds_cons, if_pos (bne_iff_ne.mpr h)]; exact Nat.add_comm _ _

theorem vars_cons_fixed {f : Frame} (h : f.d.variableArgs = false) (l : List Frame) : vars (f :: l) = vars l := by
  rw [vars_cons, h]; exact Nat.zero_add _

theorem Chain.cmds_pos {l : List Frame} (h : Chain l) (hne : l ≠ []) : 1 ≤ cmds l := by
  induction l with
  | nil => exact absurd rfl hne
  | cons g r ih =>
    cases r with
    | nil => rw [cmds_cons_cmd h.2]; exact Nat.le_add_left 1 _
    | cons f r => rw [cmds_cons]; exact Nat.le_add_left_of_le (ih h.tail (List.cons_ne_nil f r))

theorem Chain.below_nontest {g : Frame} {r : List Frame} (h : Chain (g :: r)) (hg : g.d.kind ≠ .test) :
    ∀ f ∈ r, f.d.kind ≠ .test := by
  induction r generalizing g with
  | nil => exact fun _ hf => (List.not_mem_nil hf).elim
  | cons f r ih => exact List.forall_mem_cons.mpr ⟨h.2.2.2.1 hg, ih h.tail (h.2.2.2.1 hg)⟩

theorem cmds_all_nontest (l : List Frame) (h : ∀ f ∈ l, f.d.kind ≠ .test) : cmds l = l.length := by
  unfold cmds
  rw [List.filter_eq_self.mpr]
  intro f hf
  simpa using h f hf

theorem vars_zero_of_nontest (l : List Frame) (hok : ∀ f ∈ l, FrameOK f) (h : ∀ f ∈ l, f.d.kind ≠ .test) : vars l = 0 := by
  unfold vars
  rw [List.length_eq_zero_iff, List.filter_eq_nil_iff]
  intro f hf hv
  exact h f hf ((cmdSafe_spec (hok f hf).1).var hv).1

theorem Chain.top_test {g : Frame} {r : List Frame} (h : Chain (g :: r)) (hv : 1 ≤ vars (g :: r)) :
    g.d.kind = .test := by
  apply Decidable.byContradiction
  intro hg
  have := vars_zero_of_nontest (g :: r) h.all (List.forall_mem_cons.mpr ⟨hg, h.below_nontest hg⟩)
  omega

theorem plug_ok (p : Frame) (a : Attach) (n : Node) (hp : FrameOK p) (ha : attachOK a p.d) : FrameOK (plug p a n) := by
  obtain ⟨hs, hst⟩ := hp
  obtain ⟨h1, h2, h3⟩ := plug_st p a n
  refine ⟨by rw [plug_d]; exact hs, ?_, ?_, ?_, ?_⟩
  · rw [plug_d]
    intro hany x hx
    have hall := hst.args hany
    -- a test attached to a definition with a test list is an element of that list
    have hpl := fun pl h => ha pl h (by rw [(cmdSafe_spec hs).var_iff]; exact hany)
    rcases plug_cases p a n with e | ⟨_, e⟩ | ⟨k, rfl, e⟩ | ⟨k, rfl, e⟩ | ⟨k, ts, _, _, e⟩ <;> rw [e] at hx
    · exact hall x hx
    · exact hall x hx
    · rcases hpl _ rfl with h | ⟨_, h⟩ <;> cases h
    · rcases hpl _ rfl with h | ⟨_, h⟩ <;> cases h
    · exact (mem_assocSet hx).elim (hall x) fun hx => ⟨_, _, hx⟩
  · rw [plug_d, h1]; exact hst.cur
  · rw [plug_d, h2, h3]; exact hst.cnt
  · rw [plug_d, h2, h3]; exact hst.var

theorem var_isHost (d : CmdDef) (hd : cmdSafe d = true) (hv : d.variableArgs = true) : isHost d = true := by
  obtain ⟨a, ha, hat, _⟩ := var_single d hd hv
  simp [isHost, ha, isHostSlot, hat]

theorem reassign_ok (f f' : Frame) (hok : FrameOK f) (h : reassign f = some f') : FrameOK f' := by
  obtain ⟨hsp, a, _, _, rfl⟩ := reassign_some h
  obtain ⟨_, hrc⟩ := (cmdSafe_spec hok.1).nondet (Or.inr hsp)
  have hnv : f.d.variableArgs = false := Bool.eq_false_iff.mpr fun hv => by
    obtain ⟨_, _, _, _, _, hsp'⟩ := (cmdSafe_spec hok.1).host (var_isHost _ hok.1 hv)
    rw [hsp'] at hsp; cases hsp
  exact ⟨hok.1, fun hany => (by rw [← (cmdSafe_spec hok.1).var_iff, hnv] at hany; cases hany), hok.2.cur,
    Or.inr ⟨hrc.symm, hnv⟩, fun hv => (by rw [hnv] at hv; cases hv)⟩

theorem plug_lower (p : Frame) (a : Attach) (n : Node) (h : LowerOK p) : LowerOK (plug p a n) :=
  ⟨by rw [plug_d, plug_complete]; exact h.done, by rw [plug_d]; exact h.calm, by rw [plug_d]; exact h.kind⟩

theorem Chain.replace_top {f f' : Frame} {r : List Frame} (h : Chain (f :: r)) (hok : FrameOK f')
    (hd : f'.d = f.d) (ha : f'.attach = f.attach) : Chain (f' :: r) := by
  cases r with
  | nil => exact ⟨hok, by rw [hd]; exact h.2⟩
  | cons g r => exact ⟨hok, by rw [ha]; exact h.2.1, h.2.2.1, by rw [hd]; exact h.2.2.2.1, h.2.2.2.2⟩

theorem Chain.pop_plug {g p : Frame} {r : List Frame} (h : Chain (g :: p :: r)) (n : Node) :
    Chain (plug p g.attach n :: r) :=
  h.tail.replace_top (plug_ok p g.attach n h.tail.head h.2.1) (plug_d _ _ _) (plug_attach _ _ _)

theorem complete_not_var (f : Frame) (h : Frame.complete f = true) : f.d.variableArgs = false := by
  unfold Frame.complete isComplete at h
  cases hv : f.d.variableArgs with
  | false => rfl
  | true => rw [hv] at h; simp at h

def topVar (l : List Frame) : Bool :=
  match l with
  | f :: _ => f.d.variableArgs
  | [] => false

/-- the loop of `__up`: pops completed tests only, stops on a frame that had something above it -/
theorem upLoop_spec (f : Frame) (rest : List Frame) (h : Chain (f :: rest)) :
    Chain (upLoop f rest).1 ∧ cmds (upLoop f rest).1 = cmds rest ∧ vars (upLoop f rest).1 = vars rest ∧
    (∀ g ∈ (upLoop f rest).1, ∃ p ∈ rest, g.d = p.d) ∧
    (∀ g, (upLoop f rest).1.head? = some g → LowerOK g) ∧ (upLoop f rest).2 = topVar (upLoop f rest).1 := by
  fun_induction upLoop f rest with
  | case1 f => exact ⟨trivial, rfl, rfl, fun _ h => (by cases h), fun _ h => (by cases h), rfl⟩
  | case2 f p rest p' hc ih =>
    simp only [Bool.and_eq_true, beq_iff_eq] at hc
    have hk : p.d.kind = .test := plug_d p f.attach (Frame.toNode f) ▸ hc.1
    have hv : p.d.variableArgs = false := (plug_d p f.attach (Frame.toNode f)) ▸ complete_not_var p' hc.2
    obtain ⟨i1, i2, i3, i4, i5⟩ := ih (h.pop_plug _)
    refine ⟨i1, i2.trans (cmds_cons_test hk rest).symm, i3.trans (vars_cons_fixed hv rest).symm, fun g hg => ?_, i5⟩
    obtain ⟨q, hq, hd⟩ := i4 g hg
    exact ⟨q, List.mem_cons_of_mem _ hq, hd⟩
  | case3 f p rest p' hc =>
    have hch : Chain (p' :: rest) := h.pop_plug _
    refine ⟨hch, cmds_congr (plug_d ..) _, vars_congr (plug_d ..) _, ?_, ?_, ?_⟩
    · exact List.forall_mem_cons.mpr
        ⟨⟨p, List.mem_cons_self, plug_d ..⟩, fun g hg => ⟨g, List.mem_cons_of_mem _ hg, rfl⟩⟩
    · rintro _ ⟨⟩; exact plug_lower _ _ _ h.lower
    · -- only tests have a variable number of arguments
      cases hv : p'.d.variableArgs
      · exact (Bool.and_false _).trans hv.symm
      · rw [((cmdSafe_spec hch.head.1).var hv).1]; exact hv.symm

theorem complLoop_no_crash (ld : List Bytes) (f : Frame) (rest : List Frame) (h : Chain (f :: rest)) (w : String) :
    complLoop ld f rest ≠ .error (.crash w) := by
  fun_induction complLoop ld f rest with
  | case1 | case2 | case5 | case6 => nofun
  | case3 f p rest p' _ _ _ ih => exact ih (h.pop_plug _)
  | case4 f p rest p' _ _ e he =>
    have hok := (h.pop_plug (Frame.toNode f)).head
    rintro ⟨⟩
    exact checkNextArg_no_crash (cmdSafe_spec hok.1).defs hok.2.args (consistent_test_node _) w he
  | case7 f p rest p' _ _ st' pl hcna p'' _ ih =>
    have hch : Chain (p' :: rest) := h.pop_plug _
    exact ih (hch.replace_top ⟨hch.head.1, hch.head.2.step hch.head.1 hcna⟩ rfl rfl)
  | case8 f p rest p' _ ih => exact ih (h.pop_plug _)

/-- the loop of `__check_command_completion`, entered from a completed test: the frames it passes are complete
    tests; it stops below a control command that is now complete, or at a test list that takes the next test -/
theorem complLoop_spec (ld : List Bytes) (f : Frame) (rest : List Frame) (h : Chain (f :: rest))
    (hf : f.d.kind = .test) (o : ComplOut) (ho : complLoop ld f rest = .ok o) :
    Chain o.stack ∧ cmds o.stack = cmds rest ∧ vars o.stack = vars rest ∧
    (∀ g, o.stack.head? = some g → g.d.nonDet = false) ∧
    (o.ok = true → topVar o.stack = true → o.expected = some [.comma, .right_parenthesis]) := by
  fun_induction complLoop ld f rest generalizing o with
  | case1 f => exact absurd hf h.2
  | case2 f p rest p' _ hc =>
    cases ho
    refine ⟨h.pop_plug _, cmds_congr (plug_d ..) _, vars_congr (plug_d ..) _, ?_, ?_⟩
    · rintro _ ⟨⟩; exact (plug_lower _ _ _ h.lower).calm
    · exact fun _ (hv : p'.d.variableArgs = true) => by rw [complete_not_var _ hc] at hv; cases hv
  | case3 f p rest p' hk hc hctl ih =>
    have htest : p'.d.kind = .test := by simpa [hctl] using hk
    have hk : p.d.kind = .test := plug_d p f.attach (Frame.toNode f) ▸ htest
    have hv : p.d.variableArgs = false := (plug_d p f.attach (Frame.toNode f)) ▸ complete_not_var p' hc
    obtain ⟨j1, j2, j3, j⟩ := ih (h.pop_plug _) htest o ho
    exact ⟨j1, j2.trans (cmds_cons_test hk rest).symm, j3.trans (vars_cons_fixed hv rest).symm, j⟩
  | case4 => cases ho
  | case5 f p rest p' =>
    cases ho
    refine ⟨h.pop_plug _, cmds_congr (plug_d ..) _, vars_congr (plug_d ..) _, ?_, nofun⟩
    rintro _ ⟨⟩; exact (plug_lower _ _ _ h.lower).calm
  | case6 f p rest p' _ hc st' pl hcna p'' =>
    have hch : Chain (p' :: rest) := h.pop_plug _
    have hvar : p'.d.variableArgs = true := (plug_lower _ _ _ h.lower).done.resolve_right hc
    cases ho
    refine ⟨hch.replace_top ⟨hch.head.1, hch.head.2.step hch.head.1 hcna⟩ rfl rfl, ?_, ?_, ?_, fun _ _ => if_pos hvar⟩
    · exact (cmds_congr (f := p') (f' := p'') rfl rest).trans (cmds_congr (plug_d ..) rest)
    · exact (vars_congr (f := p') (f' := p'') rfl rest).trans (vars_congr (plug_d ..) rest)
    · rintro _ ⟨⟩; exact (plug_lower _ _ _ h.lower).calm
  | case7 f p rest p' _ hc st' pl _ p'' hc' =>
    -- what takes a further test is a test list, and that is never complete
    have hvar : p''.d.variableArgs = true := (plug_lower _ _ _ h.lower).done.resolve_right hc
    rw [complete_not_var p'' (by simpa using hc')] at hvar
    cases hvar
  | case8 f p rest p' hk =>
    cases hkk : p'.d.kind with
    | action => exact absurd hkk (plug_lower p f.attach (Frame.toNode f) h.lower).kind
    | control => simp [hkk] at hk
    | test => simp [hkk] at hk

def noRp (b : List TokKind) : List TokKind := b.filter (· != .right_parenthesis)

/-- closing braces that can be popped before any stale bracket is met (parentheses aside).  A bracket goes stale in one
    way: in `else [` the completion check that follows `[` pops the complete `else` and announces `{`; `{` is then taken
    in the list state, and the `]` that `[` pushed stays under the new `}` for ever (the script is rejected at the
    latest at its end).  `Core.cstrl`'s `e = some [.left_cbracket]` and `Direct.openBlock`'s `cstate ≠ .none` are for it. -/
def liveRcb (b : List TokKind) : Nat := ((noRp b).takeWhile (· == .right_cbracket)).length
def rps (b : List TokKind) : Nat := b.count .right_parenthesis

@[simp] theorem liveRcb_rp (b : List TokKind) : liveRcb (.right_parenthesis :: b) = liveRcb b := by
  simp [liveRcb, noRp]

@[simp] theorem liveRcb_rcb (b : List TokKind) : liveRcb (.right_cbracket :: b) = liveRcb b + 1 := by
  simp [liveRcb, noRp]

@[simp] theorem liveRcb_rb (b : List TokKind) : liveRcb (.right_bracket :: b) = 0 := by
  simp [liveRcb, noRp]

@[simp] theorem rps_rp (b : List TokKind) : rps (.right_parenthesis :: b) = rps b + 1 := by simp [rps]
@[simp] theorem rps_rcb (b : List TokKind) : rps (.right_cbracket :: b) = rps b := by simp [rps]
@[simp] theorem rps_rb (b : List TokKind) : rps (.right_bracket :: b) = rps b := by simp [rps]

/-- the part of the invariant the closing handlers (`{`, `;`, `}`) rely on; `e` = what was expected
    before the current token was admitted -/
structure Core (s : PState) (e : Option (List TokKind)) : Prop where
  chain : Chain s.stack
  cnone : s.cstate = .none →
    (∀ g, s.stack.head? = some g → g.d.kind = .control ∧ Frame.complete g = true) ∧ liveRcb s.brackets ≤ cmds s.stack
  cargs : s.cstate = .arguments → liveRcb s.brackets + 1 ≤ cmds s.stack
  cstrl : s.cstate = .stringlist → 1 ≤ cmds s.stack ∧
    ∃ b0, s.brackets = .right_bracket :: b0 ∧ (e = some [.left_cbracket] ∨ liveRcb b0 + 1 ≤ cmds s.stack)
  paren : rps s.brackets ≤ vars s.stack

/-- the part that ties `expected` to a variable-arity test on top of the stack -/
structure Top (s : PState) (e : Option (List TokKind)) : Prop where
  open_ : topVar s.stack = true → e = some [.left_parenthesis] → rps s.brackets + 1 ≤ vars s.stack
  topv : topVar s.stack = true → s.cstate = .arguments →
    (e = some [.left_parenthesis] ∨ e = some [.identifier] ∨ e = some [.comma, .right_parenthesis])

def Inv (s : PState) : Prop := Core s s.expected ∧ Top s s.expected

theorem Inv.init : Inv {} := by
  refine ⟨⟨trivial, ?_, ?_, ?_, ?_⟩, ⟨?_, ?_⟩⟩ <;> simp [liveRcb, noRp, cmds, rps, vars, topVar]

theorem Core.nonempty {s : PState} {e} (h : Core s e) (hc : s.cstate ≠ .none) : s.stack ≠ [] := by
  intro hs
  cases hcs : s.cstate with
  | none => exact hc hcs
  | arguments => have := h.cargs hcs; rw [hs] at this; simp [cmds] at this
  | stringlist => have := (h.cstrl hcs).1; rw [hs] at this; simp [cmds] at this

end Safe
