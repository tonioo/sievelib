import SieveModel.Model.Bytes
/-! Facts about byte strings and lists that belong to no particular part of the model. -/

/-- `sb` on a literal, without going through the string's UTF-8 bytes.  The kernel reads a literal as
    `String.ofList [chars]`; evaluating `String.toList` on that encodes and decodes again, at a cost quadratic in the
    length.  `rw [sb_lit]` in front of a `decide` about `sb "…"` (once per distinct literal) makes it linear.
    The literal stays in the equation as it is written: with `sb (String.ofList l)` on the left the kernel would have to
    compare two different `match` terms and evaluate both. -/
theorem sb_lit {s : String} {l : List Char} (h : s = String.ofList l := by rfl) :
    sb s = l.map (fun c => c.toNat.toUInt8) := by
  rw [sb, h, String.toList_ofList]

theorem List.span_append {α : Type} {p : α → Bool} (l tail : List α) (hl : ∀ c ∈ l, p c = true)
    (ht : ∀ c ∈ tail.head?, p c = false) : (l ++ tail).takeWhile p = l ∧ (l ++ tail).dropWhile p = tail := by
  rw [List.takeWhile_append_of_pos hl, List.dropWhile_append_of_pos hl]
  cases tail with
  | nil => exact ⟨List.append_nil l, rfl⟩
  | cons c t =>
    have hc : ¬ p c = true := by rw [ht c rfl]; exact Bool.false_ne_true
    rw [List.takeWhile_cons_of_neg hc, List.dropWhile_cons_of_neg hc, List.append_nil]
    exact ⟨rfl, rfl⟩

theorem List.forall_mem_snoc {α : Type} {P : α → Prop} {l : List α} {a : α} (hl : ∀ x ∈ l, P x) (ha : P a) :
    ∀ x ∈ l ++ [a], P x :=
  List.forall_mem_append.mpr ⟨hl, List.forall_mem_singleton.mpr ha⟩

/-- a property of lists that holds of `[]` and of `a :: l` exactly when `P a` and it holds of `l` -/
theorem List.forall_mem_of_cons {α : Type} {P : α → Prop} {Q : List α → Prop} (hnil : Q [])
    (hcons : ∀ a l, Q (a :: l) ↔ P a ∧ Q l) (l : List α) : Q l ↔ ∀ a ∈ l, P a := by
  induction l with
  | nil => simp [hnil]
  | cons a l ih => simp [hcons, ih]

theorem List.find?_key_of_nodup {α β : Type} [BEq β] [LawfulBEq β] {f : α → β} {l : List α} (h : (l.map f).Nodup)
    {a : α} (ha : a ∈ l) : l.find? (fun x => f x == f a) = some a := by
  induction l with
  | nil => cases ha
  | cons x xs ih =>
    rw [List.map_cons, List.nodup_cons] at h
    rcases List.mem_cons.mp ha with rfl | ha
    · simp
    · have : (f x == f a) = false := by
        rw [beq_eq_false_iff_ne]; intro e; exact h.1 (e ▸ List.mem_map_of_mem ha)
      rw [List.find?_cons, this]; exact ih h.2 ha

theorem List.mem_of_drop_eq {α} {l pre post : List α} {n : Nat} {a : α} (h : l.drop n = pre ++ a :: post) : a ∈ l :=
  List.mem_of_mem_drop (by rw [h]; simp)

theorem List.take_succ_of_drop {α : Type} (l : List α) (m : Nat) (s : α) (tail : List α) (h : l.drop m = s :: tail) :
    l.take (m + 1) = l.take m ++ [s] := by
  rw [List.take_add_one, ← List.head?_drop, h]; rfl

theorem List.take_one_add {α : Type} (c : α) (l : List α) (m : Nat) : (c :: l).take (1 + m) = c :: l.take m := by
  rw [Nat.add_comm]; rfl

theorem List.dropWhile_of_head {α : Type} {p : α → Bool} {l : List α} (h : ∀ x ∈ l.head?, p x = false) :
    l.dropWhile p = l :=
  (List.span_append [] l nofun h).2

/-- a byte of a class is none of the bytes outside it -/
theorem B.ne_of_class {p : UInt8 → Bool} {c : UInt8} (hc : p c = true) (d : UInt8) (hd : p d = false := by decide) :
    (c == d) = false := by
  cases h : c == d with
  | false => rfl
  | true => rw [beq_iff_eq] at h; subst h; rw [hc] at hd; cases hd

theorem B.stripL_of_head {c : UInt8} {l : Bytes} (h : l.head? ≠ some c) : B.stripL c l = l := by
  cases l with
  | nil => rfl
  | cons x xs =>
    have : x ≠ c := by simpa using h
    simp [B.stripL, this]

theorem B.startsWith_append (pre s : Bytes) : B.startsWith (pre ++ s) pre = true := by
  induction pre with
  | nil => cases s <;> rfl
  | cons p ps ih => simp [B.startsWith, ih]



theorem B.digit_val : ∀ k, k < 10 → ((48 + k).toUInt8).toNat - 48 = k ∧ B.isDigit (48 + k).toUInt8 = true := by
  decide

theorem B.decToNat_snoc (ds : Bytes) (d : UInt8) : B.decToNat (ds ++ [d]) = B.decToNat ds * 10 + (d.toNat - 48) := by
  simp [B.decToNat, List.foldl_append]

/-- the digit string of `n`: non-empty, digits only, and it parses back to `n` -/
theorem B.decDigits_spec (fuel n : Nat) (acc : Bytes) (h : n < 10 ^ fuel) (hf : 0 < fuel) :
    ∃ ds, B.decDigits fuel n acc = ds ++ acc ∧ ds ≠ [] ∧ (∀ d ∈ ds, B.isDigit d = true) ∧ B.decToNat ds = n := by
  fun_induction B.decDigits fuel n acc with
  | case1 => cases hf
  | case2 fuel n acc hlt =>
    obtain ⟨hv, hd⟩ := B.digit_val n hlt
    exact ⟨[(48 + n).toUInt8], rfl, List.cons_ne_nil _ _, fun d hd' => List.mem_singleton.mp hd' ▸ hd,
      (B.decToNat_snoc [] _).trans (by rw [hv]; exact Nat.zero_add n)⟩
  | case3 fuel n acc hge ih =>
    have hfuel : 0 < fuel := Nat.pos_of_ne_zero fun e => by subst e; exact hge h
    rw [Nat.pow_succ, Nat.mul_comm] at h
    obtain ⟨ds, he, hne, hall, hval⟩ := ih (Nat.div_lt_of_lt_mul h) hfuel
    obtain ⟨hv, hd⟩ := B.digit_val (n % 10) (Nat.mod_lt _ (by decide))
    refine ⟨ds ++ [(48 + n % 10).toUInt8], by rw [he, List.append_assoc]; rfl,
      List.append_ne_nil_of_left_ne_nil hne _, ?_, ?_⟩
    · intro d hd'
      rcases List.mem_append.mp hd' with h1 | h1
      · exact hall d h1
      · exact List.mem_singleton.mp h1 ▸ hd
    · rw [decToNat_snoc, hval, hv]; exact Nat.div_add_mod' n 10

theorem B.natToDec_spec (n : Nat) :
    B.natToDec n ≠ [] ∧ (∀ d ∈ B.natToDec n, B.isDigit d = true) ∧ B.decToNat (B.natToDec n) = n := by
  have hlt : n < 10 ^ (n + 1) :=
    Nat.lt_trans (Nat.lt_pow_self (by omega : 1 < 10)) (Nat.pow_lt_pow_right (by omega) (by omega))
  obtain ⟨ds, he, hne, hall, hval⟩ := B.decDigits_spec (n + 1) n [] hlt (Nat.succ_pos n)
  rw [B.natToDec, he, List.append_nil]
  exact ⟨hne, hall, hval⟩

theorem Except.map_ok {ε α β : Type} {f : α → β} {x : Except ε α} {b : β} : x.map f = .ok b ↔ ∃ a, x = .ok a ∧ f a = b := by
  cases x <;> simp [Except.map]

section upsert
variable {α κ : Type} [BEq κ] [LawfulBEq κ] (key : α → κ)

theorem List.find?_overwrite (l : List α) (a : α) (k : κ) :
    (l.map fun p => if key p == key a then a else p).find? (fun p => key p == k) =
      (l.find? fun p => key p == k).map fun p => if key p == key a then a else p := by
  rw [List.find?_map]
  congr 2
  funext p
  by_cases hp : (key p == key a) = true
  · simp only [Function.comp, if_pos hp]; rw [eq_of_beq hp]
  · simp only [Function.comp, if_neg hp]

/-- insert-or-overwrite by key (`d[k] = v` on an insertion-ordered dict): a look-up finds the new entry under its
    own key and what was there before under every other -/
theorem List.find?_upsert (l : List α) (a : α) (k : κ) :
    (if l.any (fun p => key p == key a) then l.map (fun p => if key p == key a then a else p) else l ++ [a]).find?
        (fun p => key p == k) =
      if key a == k then some a else l.find? (fun p => key p == k) := by
  split
  · rename_i hany
    rw [List.find?_overwrite]
    cases hf : l.find? (fun p => key p == k) with
    | none =>
      obtain ⟨x, hx, hxa⟩ := List.any_eq_true.mp hany
      have := List.find?_eq_none.mp hf x hx
      rw [eq_of_beq hxa] at this
      rw [if_neg this]; rfl
    | some y =>
      have hy : key y = k := eq_of_beq (List.find?_some (p := fun p => key p == k) hf)
      subst hy
      by_cases h : (key a == key y) = true
      · rw [if_pos h]; exact congrArg some (if_pos (by rw [eq_of_beq h]; exact beq_self_eq_true _))
      · rw [if_neg h]; exact congrArg some (if_neg fun h' => h (by rw [eq_of_beq h']; exact beq_self_eq_true _))
  · rename_i hany
    rw [List.find?_append]
    by_cases h : (key a == k) = true
    · have : l.find? (fun p => key p == k) = none := List.find?_eq_none.mpr fun x hx hxk =>
        hany (List.any_eq_true.mpr ⟨x, hx, by rw [eq_of_beq hxk, eq_of_beq h]; exact beq_self_eq_true _⟩)
      rw [this, if_pos h, List.find?_cons_of_pos (p := fun p => key p == k) h]; rfl
    · rw [if_neg h, List.find?_cons_of_neg (p := fun p => key p == k) h, List.find?_nil, Option.or_none]
end upsert

theorem List.mem_upsert {α κ : Type} [BEq κ] (key : α → κ) {l : List α} {a x : α}
    (h : x ∈ (if l.any (fun p => key p == key a) then l.map (fun p => if key p == key a then a else p) else l ++ [a])) :
    x ∈ l ∨ x = a := by
  split at h
  · obtain ⟨y, hy, rfl⟩ := List.mem_map.mp h
    split
    · exact .inr rfl
    · exact .inl hy
  · simpa using h
