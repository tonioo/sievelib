import SieveModel.Generated.ClientMethods
import SieveModel.Generated.FactoryData
import SieveModel.Generated.Footprint
import SieveModel.Generated.LexRules
import SieveModel.Generated.MsConsts
import SieveModel.Generated.Tables
import SieveModel.Lemmas.ArgsSafe
import SieveModel.Lemmas.Assoc
import SieveModel.Lemmas.AuthWrites
import SieveModel.Lemmas.Base64
import SieveModel.Lemmas.Brackets
import SieveModel.Lemmas.Bytes
import SieveModel.Lemmas.ClientRead
import SieveModel.Lemmas.ClientState
import SieveModel.Lemmas.Codec
import SieveModel.Lemmas.Comments
import SieveModel.Lemmas.Count
import SieveModel.Lemmas.Effect
import SieveModel.Lemmas.Factory
import SieveModel.Lemmas.FactorySet
import SieveModel.Lemmas.FilterSet
import SieveModel.Lemmas.Gating
import SieveModel.Lemmas.Invariant
import SieveModel.Lemmas.Layout
import SieveModel.Lemmas.Lex
import SieveModel.Lemmas.Listing
import SieveModel.Lemmas.LiveTable
import SieveModel.Lemmas.Loaded
import SieveModel.Lemmas.Machine
import SieveModel.Lemmas.NoCrash
import SieveModel.Lemmas.Pos
import SieveModel.Lemmas.Printable
import SieveModel.Lemmas.QuoteLex
import SieveModel.Lemmas.Readback
import SieveModel.Lemmas.Reader
import SieveModel.Lemmas.Regenerated
import SieveModel.Lemmas.Relex
import SieveModel.Lemmas.Rename
import SieveModel.Lemmas.ReplyDecode
import SieveModel.Lemmas.ReplyGrammar
import SieveModel.Lemmas.ReplyLine
import SieveModel.Lemmas.Reprint
import SieveModel.Lemmas.Roles
import SieveModel.Lemmas.Safe
import SieveModel.Lemmas.Scan
import SieveModel.Lemmas.SerLemmas
import SieveModel.Lemmas.Session
import SieveModel.Lemmas.StackThread
import SieveModel.Lemmas.Threading
import SieveModel.Lemmas.TokThread
import SieveModel.Lemmas.Typed
import SieveModel.Model.Args
import SieveModel.Model.Base64
import SieveModel.Model.Bytes
import SieveModel.Model.Client
import SieveModel.Model.Factory
import SieveModel.Model.FilterSet
import SieveModel.Model.Lexer
import SieveModel.Model.Machine
import SieveModel.Model.Readback
import SieveModel.Model.Reader
import SieveModel.Model.Rename
import SieveModel.Model.Safety
import SieveModel.Model.Serialize
import SieveModel.Model.Show
import SieveModel.Model.Table
import SieveModel.Model.TableCodec
import SieveModel.Model.ToList
import SieveModel.Model.Tree
import SieveModel.Model.Utf8
import SieveModel.Props.C01
import SieveModel.Props.C02
import SieveModel.Props.C03
import SieveModel.Props.C04
import SieveModel.Props.C05
import SieveModel.Props.C06
import SieveModel.Props.C07
import SieveModel.Props.C08
import SieveModel.Props.C09
import SieveModel.Props.C10
import SieveModel.Props.C11
import SieveModel.Props.C12
import SieveModel.Props.C13
import SieveModel.Props.C14
import SieveModel.Props.C15
import SieveModel.Props.C16
import SieveModel.Props.C17
import SieveModel.Props.C18
import SieveModel.Props.C19
import SieveModel.Props.C20
import SieveModel.Spec.ExtensionMap
import SieveModel.Spec.FrozenTable
import SieveModel.Spec.Rfc5804
import SieveModel.Spec.Vocabulary
import SieveModel.Spec.WF
